import LarkVerif.Heap
/-! C13: `copy.deepcopy` of a value stack (`ParserState.copy`, `Tree.__deepcopy__`) — the hypothesis of `fork_unaffected` ("the fork's reachable list
    objects do not include the one the original mutates in place") is what a deep copy *establishes*.  `deepcopy` re-allocates every list object
    reachable from a value at fresh addresses `≥ nx`; `deepcopy_spec`: old objects are untouched, the copy lives entirely in the fresh region, and it
    denotes the same pure value.  `copy_then_mutate_original` / `copy_then_mutate_copy` combine it with the in-place append of the tree builder. -/
namespace HeapProto
open ShapeProto

/-- deep copy with an allocation pointer `nx` (first free address); returns the new heap, the new allocation pointer and the copy -/
def deepcopy : Nat → Heap → Ref → HV → Heap × Ref × HV
  | _, h, nx, HV.tok ty v => (h, nx, HV.tok ty v)
  | _, h, nx, HV.none => (h, nx, HV.none)
  | 0, h, nx, HV.tree d r => (h, nx, HV.tree d r)
  | f+1, h, nx, HV.tree d r =>
      let res := (h r).foldl (fun (acc : Heap × Ref × List HV) k =>
                    let c := deepcopy f acc.1 acc.2.1 k
                    (c.1, c.2.1, acc.2.2 ++ [c.2.2])) (h, nx + 1, [])
      (fun r' => if r' = nx then res.2.2 else res.1 r', res.2.1, HV.tree d nx)

/-- everything reachable from `v` lies below `n` -/
def Below (h : Heap) (f : Nat) (n : Nat) (v : HV) : Prop := ∀ r ∈ reach h f v, r < n

/-- enough fuel for `v`: the denotation exists (the value is a finite tree) -/
def Fin (h : Heap) (f : Nat) (v : HV) : Prop := (den h f v).isSome

structure Spec (f : Nat) (h : Heap) (nx : Ref) (v : HV) (out : Heap × Ref × HV) : Prop where
  mono : nx ≤ out.2.1
  frame : ∀ r, r < nx → out.1 r = h r
  fresh : ∀ r ∈ reach out.1 f out.2.2, nx ≤ r ∧ r < out.2.1
  same : den out.1 f out.2.2 = den h f v

theorem mapM_isSome_mem {α β} (g : α → Option β) : ∀ (l : List α), (l.mapM g).isSome → ∀ x ∈ l, (g x).isSome := by
  intro l
  induction l with
  | nil => intro _ x hx; cases hx
  | cons a l ih =>
    intro h x hx
    simp only [List.mapM_cons] at h
    cases ha : g a with
    | none => simp [ha] at h
    | some b =>
      cases hl : l.mapM g with
      | none => simp [ha, hl] at h
      | some bs =>
        rcases List.mem_cons.mp hx with rfl | hx
        · simp [ha]
        · exact ih (by simp [hl]) x hx

/-- one round of the loop in `deepcopy`: copy the next child behind the allocation pointer, append the copy -/
def copyStep (f : Nat) (acc : Heap × Ref × List HV) (k : HV) : Heap × Ref × List HV :=
  let c := deepcopy f acc.1 acc.2.1 k
  (c.1, c.2.1, acc.2.2 ++ [c.2.2])

theorem deepcopy_tree (f : Nat) (h : Heap) (nx : Ref) (d : Nat) (r : Ref) :
    deepcopy (f+1) h nx (.tree d r) =
      let res := (h r).foldl (copyStep f) (h, nx + 1, [])
      (fun r' => if r' = nx then res.2.2 else res.1 r', res.2.1, .tree d nx) := rfl

/-- `Spec`, for the loop over the children: the pointer only grows, nothing below it changes, the copies lie in the fresh region and denote what
    the children denoted.  The step rests on one fact used twice: a value all of whose objects lie below a pointer does not see writes at or above it
    (the children not yet copied lie below `nx`; the copy made first lies below the pointer the later copies start from). -/
theorem copy_kids (f : Nat)
    (ih : ∀ (h : Heap) (nx : Ref) (v : HV), Below h f nx v → Fin h f v → Spec f h nx v (deepcopy f h nx v)) :
    ∀ (kids : List HV) (h : Heap) (nx : Ref) (acc : List HV), (∀ k ∈ kids, Below h f nx k ∧ Fin h f k) →
      ∃ h' nx' news, kids.foldl (copyStep f) (h, nx, acc) = (h', nx', acc ++ news) ∧
        nx ≤ nx' ∧ (∀ r, r < nx → h' r = h r) ∧ (∀ k' ∈ news, ∀ r ∈ reach h' f k', nx ≤ r ∧ r < nx') ∧
        news.mapM (den h' f) = kids.mapM (den h f) := by
  intro kids
  induction kids with
  | nil => intro h nx acc _; exact ⟨h, nx, [], by rw [List.append_nil]; rfl, Nat.le_refl _, fun _ _ => rfl, fun _ hk => absurd hk List.not_mem_nil, rfl⟩
  | cons k ks ihk =>
    intro h nx acc hk
    obtain ⟨⟨hbelow, hfin⟩, hks⟩ := List.forall_mem_cons.mp hk
    have hS := ih h nx k hbelow hfin
    generalize hc : deepcopy f h nx k = c at hS
    obtain ⟨h1, n1, k'⟩ := c
    obtain ⟨hmono, hframe, hfresh, hsame⟩ : nx ≤ n1 ∧ (∀ r, r < nx → h1 r = h r) ∧ (∀ r ∈ reach h1 f k', nx ≤ r ∧ r < n1) ∧
      den h1 f k' = den h f k := ⟨hS.mono, hS.frame, hS.fresh, hS.same⟩
    have hrest : ∀ x ∈ ks, reach h f x = reach h1 f x ∧ den h f x = den h1 f x := fun x hx =>
      frame h h1 f x fun r hr => (hframe r ((hks x hx).1 r hr)).symm
    obtain ⟨h', nx', news, hres, hm, hfr, hfresh', hsame'⟩ := ihk h1 n1 (acc ++ [k']) fun x hx =>
      ⟨fun r hr => Nat.lt_of_lt_of_le ((hks x hx).1 r ((hrest x hx).1 ▸ hr)) hmono, show (den h1 f x).isSome from (hrest x hx).2 ▸ (hks x hx).2⟩
    have hk' := frame h1 h' f k' fun r hr => (hfr r (hfresh r hr).2).symm
    refine ⟨h', nx', k' :: news, ?_, Nat.le_trans hmono hm, fun r hr => ?_, fun x hx r hr => ?_, ?_⟩
    · rw [List.foldl_cons, copyStep, hc, hres, List.append_assoc]; rfl
    · rw [hfr r (Nat.lt_of_lt_of_le hr hmono), hframe r hr]
    · rcases List.mem_cons.mp hx with rfl | hx
      · rw [← hk'.1] at hr
        exact ⟨(hfresh r hr).1, Nat.lt_of_lt_of_le (hfresh r hr).2 hm⟩
      · exact ⟨Nat.le_trans hmono (hfresh' x hx r hr).1, (hfresh' x hx r hr).2⟩
    · rw [List.mapM_cons, List.mapM_cons, ← hk'.2, hsame, hsame', mapM_congr _ _ ks fun x hx => (hrest x hx).2]

/-- **What a deep copy establishes.** For a finite value whose list objects all lie below the allocation pointer: old objects are untouched, the
    copy's list objects are all fresh, and the copy denotes the same pure value. -/
theorem deepcopy_spec : ∀ (f : Nat) (h : Heap) (nx : Ref) (v : HV), Below h f nx v → Fin h f v → Spec f h nx v (deepcopy f h nx v) := by
  intro f
  induction f with
  | zero =>
    intro h nx v _ hfin
    cases v with
    | tok | none => exact ⟨Nat.le_refl _, fun _ _ => rfl, fun _ hr => absurd hr List.not_mem_nil, rfl⟩
    | tree d r => cases hfin
  | succ f ih =>
    intro h nx v hbelow hfin
    cases v with
    | tok | none => exact ⟨Nat.le_refl _, fun _ _ => rfl, fun _ hr => absurd hr List.not_mem_nil, rfl⟩
    | tree d r =>
      have hkids : ∀ k ∈ h r, Below h f (nx + 1) k ∧ Fin h f k := fun k hk =>
        ⟨fun r' hr' => Nat.lt_succ_of_lt (hbelow r' (List.mem_cons_of_mem _ (List.mem_flatMap.mpr ⟨k, hk, hr'⟩))),
         mapM_isSome_mem _ _ (by simpa only [Fin, den, Option.isSome_map] using hfin) k hk⟩
      obtain ⟨h1, n1, ks, hres, hm, hfr, hfresh, hsame⟩ := copy_kids f ih (h r) h (nx + 1) [] hkids
      rw [List.nil_append] at hres
      rw [deepcopy_tree, hres]
      -- writing the new list object at `nx` does not disturb the copies of the children (they live above `nx`)
      have hag := fun k' hk' => frame h1 (fun r' => if r' = nx then ks else h1 r') f k' fun r hr =>
        (if_neg (Nat.ne_of_gt (hfresh k' hk' r hr).1)).symm
      refine ⟨Nat.le_of_succ_le hm, fun r0 hr0 => ?_, fun r0 hr0 => ?_, ?_⟩
      · exact (if_neg (Nat.ne_of_lt hr0)).trans (hfr r0 (Nat.lt_succ_of_lt hr0))
      · simp only [reach, if_true, List.mem_cons, List.mem_flatMap] at hr0
        rcases hr0 with rfl | ⟨k', hk', hr0⟩
        · exact ⟨Nat.le_refl _, hm⟩
        · rw [← (hag k' hk').1] at hr0
          exact ⟨Nat.le_of_succ_le (hfresh k' hk' r0 hr0).1, (hfresh k' hk' r0 hr0).2⟩
      · simp only [den, if_true]
        rw [← mapM_congr _ _ ks fun k' hk' => (hag k' hk').2, hsame]

/-- **After `copy()`, an in-place append by the original is invisible to the fork** (the disjointness hypothesis of `fork_unaffected` discharged by the
    deep copy): the original extends a list object `r` it owns (`r < nx`); the copy's denotation does not change. -/
theorem copy_then_mutate_original (f : Nat) (h : Heap) (nx : Ref) (v : HV) (hb : Below h f nx v) (hfin : Fin h f v)
    (r : Ref) (hr : r < nx) (extra : List HV) :
    let c := deepcopy f h nx v
    den (appendInPlace c.1 r extra) f c.2.2 = den h f v :=
  have hS := deepcopy_spec f h nx v hb hfin
  (den_appendInPlace _ r extra f _ fun hr' => Nat.lt_irrefl r (Nat.lt_of_lt_of_le hr (hS.fresh r hr').1)).trans hS.same

/-- … and an in-place append by the fork, to a list object of the copy, is invisible to the original. -/
theorem copy_then_mutate_copy (f : Nat) (h : Heap) (nx : Ref) (v : HV) (hb : Below h f nx v) (hfin : Fin h f v)
    (r : Ref) (hr : nx ≤ r) (extra : List HV) :
    let c := deepcopy f h nx v
    den (appendInPlace c.1 r extra) f v = den h f v :=
  have hS := deepcopy_spec f h nx v hb hfin
  (den_frame h _ f v fun r' hr' =>
    ((appendInPlace_of_ne _ extra (Nat.ne_of_lt (Nat.lt_of_lt_of_le (hb r' hr') hr))).trans (hS.frame r' (hb r' hr'))).symm).symm

end HeapProto
