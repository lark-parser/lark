/-- the Boolean checkers of the development (`checkSafe`, `checkClosed`, `closedB` …) write an implication as `!a || b`
    (or `x != y || b`, `decide (¬ p) || b`, which unfold to it through `bne`, `decide_not`) -/
theorem Bool.not_or_eq_true_iff {a b : Bool} : (!a || b) = true ↔ (a = true → b = true) := by
  cases a <;> simp

namespace EarleyProto

inductive Sym where
  | t : Nat → Sym
  | nt : Nat → Sym
deriving DecidableEq, Repr

structure Rule where
  lhs : Nat
  rhs : List Sym
deriving DecidableEq, Repr

structure Grammar where
  rules : List Rule

/-- derivation of a token-type string from a sentential form (single, non-nested inductive) -/
inductive DerivesSeq (G : Grammar) : List Sym → List Nat → Prop
  | nil : DerivesSeq G [] []
  | term (a rest ts) : DerivesSeq G rest ts → DerivesSeq G (Sym.t a :: rest) (a :: ts)
  | nonterm (r rest ts1 ts2) : r ∈ G.rules → DerivesSeq G r.rhs ts1 → DerivesSeq G rest ts2 →
      DerivesSeq G (Sym.nt r.lhs :: rest) (ts1 ++ ts2)

/-- the token lattice: terminal edges and ignore edges between text positions -/
structure Lattice where
  edge : Nat → Nat → Nat → Prop   -- edge a i j
  ign : Nat → Nat → Prop

inductive IgnStar (L : Lattice) : Nat → Nat → Prop
  | refl (i) : IgnStar L i i
  | step (i j k) : L.ign i j → IgnStar L j k → IgnStar L i k

/-- a path spelling `ts`, ignore-runs attached in front of each terminal -/
inductive Steps (L : Lattice) : Nat → Nat → List Nat → Prop
  | nil (i) : Steps L i i []
  | cons (i i' j k a ts) : IgnStar L i i' → L.edge a i' j → Steps L j k ts → Steps L i k (a :: ts)

theorem Steps.append {L : Lattice} {i j k ts1 ts2} (h1 : Steps L i j ts1) (h2 : Steps L j k ts2) :
    Steps L i k (ts1 ++ ts2) := by
  induction h1 with
  | nil => simpa using h2
  | cons i i' j k' a ts hi he _ ih => exact Steps.cons i i' j k a _ hi he (ih h2)

theorem Steps.split {L : Lattice} {ts1 ts2 : List Nat} : ∀ {i k}, Steps L i k (ts1 ++ ts2) →
    ∃ j, Steps L i j ts1 ∧ Steps L j k ts2 := by
  induction ts1 with
  | nil => intro i k h; exact ⟨i, Steps.nil i, by simpa using h⟩
  | cons a ts ih =>
    intro i k h
    cases h with
    | cons _ i' j _ _ _ hi he hs =>
      obtain ⟨m, h1, h2⟩ := ih hs
      exact ⟨m, Steps.cons i i' j m a ts hi he h1, h2⟩

structure Item where
  rule : Rule
  dot : Nat
  origin : Nat

inductive Chart (G : Grammar) (L : Lattice) (start : Nat) : Nat → Item → Prop
  | init (r) : r ∈ G.rules → r.lhs = start → Chart G L start 0 ⟨r, 0, 0⟩
  | predict (i r d k r') : Chart G L start i ⟨r, d, k⟩ → r.rhs[d]? = some (Sym.nt r'.lhs) → r' ∈ G.rules →
      Chart G L start i ⟨r', 0, i⟩
  | scan (i j r d k a) : Chart G L start i ⟨r, d, k⟩ → r.rhs[d]? = some (Sym.t a) → L.edge a i j →
      Chart G L start j ⟨r, d+1, k⟩
  | ignore (i j r d k a) : Chart G L start i ⟨r, d, k⟩ → r.rhs[d]? = some (Sym.t a) → L.ign i j →
      Chart G L start j ⟨r, d, k⟩
  | complete (i j r' r d k) : Chart G L start i ⟨r', r'.rhs.length, j⟩ → Chart G L start j ⟨r, d, k⟩ →
      r.rhs[d]? = some (Sym.nt r'.lhs) → Chart G L start i ⟨r, d+1, k⟩
  | carry (i j r k) : Chart G L start i ⟨r, r.rhs.length, k⟩ → r.lhs = start → k = 0 → L.ign i j →
      Chart G L start j ⟨r, r.rhs.length, k⟩

/-- unrestricted path: ignore edges anywhere -/
inductive Path (L : Lattice) : Nat → Nat → List Nat → Prop
  | nil (i) : Path L i i []
  | edge (i j k a ts) : L.edge a i j → Path L j k ts → Path L i k (a :: ts)
  | ign (i j k ts) : L.ign i j → Path L j k ts → Path L i k ts

theorem Path.append {L : Lattice} {i j k ts1 ts2} (h1 : Path L i j ts1) (h2 : Path L j k ts2) :
    Path L i k (ts1 ++ ts2) := by
  induction h1 with
  | nil => simpa using h2
  | edge i j k' a ts he _ ih => exact Path.edge i j k a _ he (ih h2)
  | ign i j k' ts hi _ ih => exact Path.ign i j k _ hi (ih h2)

theorem IgnStar.toPath {L : Lattice} {i j : Nat} (h : IgnStar L i j) : Path L i j [] := by
  induction h with
  | refl i => exact Path.nil i
  | step i j k hij _ ih => exact Path.ign i j k [] hij ih

theorem DerivesSeq.append {G : Grammar} {α β : List Sym} {u v : List Nat}
    (h1 : DerivesSeq G α u) (h2 : DerivesSeq G β v) : DerivesSeq G (α ++ β) (u ++ v) := by
  induction h1 with
  | nil => simpa using h2
  | term a rest ts _ ih => exact DerivesSeq.term a _ _ ih
  | nonterm r rest ts1 ts2 hr h1 _ _ ih2 =>
    rw [List.append_assoc]; exact DerivesSeq.nonterm r _ ts1 _ hr h1 ih2

theorem DerivesSeq.split {G : Grammar} : ∀ {α β : List Sym} {w : List Nat}, DerivesSeq G (α ++ β) w →
    ∃ w1 w2, w = w1 ++ w2 ∧ DerivesSeq G α w1 ∧ DerivesSeq G β w2 := by
  intro α
  induction α with
  | nil => intro β w h; exact ⟨[], w, rfl, DerivesSeq.nil, by simpa using h⟩
  | cons s α ih =>
    intro β w h
    rw [List.cons_append] at h
    cases h with
    | term a rest ts h' =>
      obtain ⟨w1, w2, rfl, h1, h2⟩ := ih h'
      exact ⟨a :: w1, w2, rfl, DerivesSeq.term a _ _ h1, h2⟩
    | nonterm r rest ts1 ts2 hr h1 h2 =>
      obtain ⟨w1, w2, rfl, h1', h2'⟩ := ih h2
      exact ⟨ts1 ++ w1, w2, (List.append_assoc ..).symm, DerivesSeq.nonterm r _ ts1 w1 hr h1 h1', h2'⟩

theorem DerivesSeq.single {G : Grammar} {r : Rule} (hr : r ∈ G.rules) {v : List Nat} (h : DerivesSeq G r.rhs v) :
    DerivesSeq G [Sym.nt r.lhs] v := by
  simpa using DerivesSeq.nonterm r [] v [] hr h DerivesSeq.nil

/-- converse of `DerivesSeq.single` -/
theorem DerivesSeq.single_inv {G : Grammar} {A : Nat} {v : List Nat} (h : DerivesSeq G [Sym.nt A] v) :
    ∃ r ∈ G.rules, r.lhs = A ∧ DerivesSeq G r.rhs v := by
  cases h with
  | nonterm r _ ts1 ts2 hr h1 h2 => cases h2; exact ⟨r, hr, rfl, by simpa using h1⟩

theorem Path.snocIgn {L : Lattice} {i j k ts} (hp : Path L i j ts) (h : L.ign j k) : Path L i k ts := by
  simpa using hp.append (Path.ign j k k [] h (Path.nil k))

theorem take_succ_of_getElem? {α} {l : List α} {d : Nat} {x : α} (h : l[d]? = some x) :
    l.take (d+1) = l.take d ++ [x] := by
  rw [List.take_add_one, h]; rfl

/-- The unread part of a right-hand side begins with `x` iff `x` is the symbol under the dot; the rest is what lies behind it.
    (`take_succ_of_getElem?` is the same fact about the part already read.) -/
theorem drop_eq_cons_iff {α} {l : List α} {d : Nat} {x : α} {γ : List α} :
    l.drop d = x :: γ ↔ l[d]? = some x ∧ l.drop (d + 1) = γ := by
  constructor
  · intro h
    exact ⟨by rw [← List.head?_drop, h]; rfl, by rw [← List.tail_drop, h]; rfl⟩
  · rintro ⟨h, rfl⟩
    obtain ⟨hd, rfl⟩ := List.getElem?_eq_some_iff.mp h
    exact List.drop_eq_getElem_cons hd

/-- every rule can be completed to a terminal string (a "reduced" grammar in the productive sense) -/
def Productive (G : Grammar) : Prop := ∀ r ∈ G.rules, ∃ w, DerivesSeq G r.rhs w

/-- The step on which every "what was read so far begins a sentence" argument turns (Earley: `Valid.under_dot`; LR(0): `ItemValid.completes`),
    about derivations alone.  If the left-hand side of a productive rule is wanted after `u` (`H`: whatever it derives there can be completed
    to a sentence), the symbols before the dot derive `ts`, and the remainder behind the dot is `β ++ γ`, then whatever `β` derives can follow
    `u ++ ts` in a sentence: `γ` can be completed because the rule is productive. -/
theorem Productive.wanted_after {G : Grammar} (hP : Productive G) {start : Nat} {r : Rule} (hr : r ∈ G.rules) {d : Nat} {β γ : List Sym}
    (hdrop : r.rhs.drop d = β ++ γ) {u ts v : List Nat}
    (H : ∀ v, DerivesSeq G [Sym.nt r.lhs] v → ∃ w, DerivesSeq G [Sym.nt start] (u ++ v ++ w))
    (h1 : DerivesSeq G (r.rhs.take d) ts) (h2 : DerivesSeq G β v) :
    ∃ w, DerivesSeq G [Sym.nt start] (u ++ ts ++ v ++ w) := by
  obtain ⟨w0, hw0⟩ := hP r hr
  rw [← List.take_append_drop d r.rhs, hdrop] at hw0
  obtain ⟨_, _, _, _, hβγ⟩ := hw0.split
  obtain ⟨_, wγ, _, _, hγ⟩ := hβγ.split
  have hrhs := h1.append (h2.append hγ)
  rw [← hdrop, List.take_append_drop] at hrhs
  obtain ⟨w, hw⟩ := H _ (DerivesSeq.single hr hrhs)
  exact ⟨wγ ++ w, by simpa [List.append_assoc] using hw⟩

theorem Chart.rule_mem {G : Grammar} {L : Lattice} {start i it} (h : Chart G L start i it) :
    it.rule ∈ G.rules := by
  induction h with
  | init r hr _ => exact hr
  | predict i r d k r' _ _ hr' _ => exact hr'
  | scan i j r d k a _ _ _ ih => exact ih
  | ignore i j r d k a _ _ _ ih => exact ih
  | complete i j r' r d k _ _ _ _ ih2 => exact ih2
  | carry i j r k _ _ _ _ ih => exact ih

/-- Soundness of every chart item. -/
theorem Chart.sound {G : Grammar} {L : Lattice} {start i it} (h : Chart G L start i it) :
    ∃ ts, Path L it.origin i ts ∧ DerivesSeq G (it.rule.rhs.take it.dot) ts := by
  induction h with
  | init r _ _ => exact ⟨[], Path.nil 0, by simpa using DerivesSeq.nil⟩
  | predict i r d k r' _ _ _ _ => exact ⟨[], Path.nil i, by simpa using DerivesSeq.nil⟩
  | scan i j r d k a _ hd he ih =>
    obtain ⟨ts, hp, hder⟩ := ih
    refine ⟨ts ++ [a], hp.append (Path.edge i j j a [] he (Path.nil j)), ?_⟩
    simp only at hder ⊢
    rw [take_succ_of_getElem? hd]
    exact hder.append (DerivesSeq.term a [] [] DerivesSeq.nil)
  | ignore i j r d k a _ hd hi ih =>
    obtain ⟨ts, hp, hder⟩ := ih
    exact ⟨ts, hp.snocIgn hi, hder⟩
  | complete i j r' r d k hc1 _ hd ih1 ih2 =>
    obtain ⟨ts1, hp1, hder1⟩ := ih1
    obtain ⟨ts2, hp2, hder2⟩ := ih2
    refine ⟨ts2 ++ ts1, hp2.append hp1, ?_⟩
    simp only at hder1 hder2 ⊢
    rw [take_succ_of_getElem? hd]
    exact hder2.append (DerivesSeq.single hc1.rule_mem (by simpa using hder1))
  | carry i j r k _ _ _ hi ih =>
    obtain ⟨ts, hp, hder⟩ := ih
    exact ⟨ts, hp.snocIgn hi, hder⟩


/-- an item waiting for a terminal survives a run of ignored stretches -/
theorem Chart.ignStar {G : Grammar} {L : Lattice} {start i i' r d k a} (hc : Chart G L start i ⟨r, d, k⟩)
    (hd : r.rhs[d]? = some (Sym.t a)) (hi : IgnStar L i i') : Chart G L start i' ⟨r, d, k⟩ := by
  induction hi with
  | refl => exact hc
  | step x y z hxy _ ih => exact ih (Chart.ignore x y r d k a hc hd hxy)

/-- one link of `Steps`: the dot moves over a terminal -/
theorem Chart.overTerm {G : Grammar} {L : Lattice} {start i i' j r d k a} (hc : Chart G L start i ⟨r, d, k⟩)
    (hd : r.rhs[d]? = some (Sym.t a)) (hi : IgnStar L i i') (he : L.edge a i' j) : Chart G L start j ⟨r, d + 1, k⟩ :=
  Chart.scan i' j r d k a (hc.ignStar hd hi) hd he

/-- The completeness engine: the dot moves over a whole derived stretch `β` of the remainder `β ++ γ`. -/
theorem Chart.advanceOver {G : Grammar} {L : Lattice} {start : Nat} :
    ∀ {β : List Sym} {ts : List Nat}, DerivesSeq G β ts →
    ∀ {i j r d k} (γ : List Sym), Chart G L start i ⟨r, d, k⟩ → r.rhs.drop d = β ++ γ →
      Steps L i j ts → Chart G L start j ⟨r, d + β.length, k⟩ := by
  intro β ts h
  induction h with
  | nil => intro i j r d k γ hc _ hs; cases hs; exact hc
  | term a rest ts _ ih =>
    intro i j r d k γ hc hdrop hs
    obtain ⟨hd, hdrop'⟩ := drop_eq_cons_iff.mp hdrop
    cases hs with
    | cons _ i' m _ _ _ hi he hs' =>
      exact Nat.add_right_comm d 1 rest.length ▸ ih γ (hc.overTerm hd hi he) hdrop' hs'
  | nonterm r' rest ts1 ts2 hr' _ _ ih1 ih2 =>
    intro i j r d k γ hc hdrop hs
    obtain ⟨hd, hdrop'⟩ := drop_eq_cons_iff.mp hdrop
    obtain ⟨m, hs1, hs2⟩ := Steps.split hs
    have hfull := ih1 [] (Chart.predict i r d k r' hc hd hr') (by simp) hs1
    have hcomp := Chart.complete m i r' r d k (Nat.zero_add r'.rhs.length ▸ hfull) hc hd
    exact Nat.add_right_comm d 1 rest.length ▸ ih2 γ hcomp hdrop' hs2

/-- advancing over a whole derived suffix: the completeness engine -/
theorem Chart.advance {G : Grammar} {L : Lattice} {start : Nat} :
    ∀ {β : List Sym} {ts : List Nat}, DerivesSeq G β ts →
    ∀ {i j r d k}, Chart G L start i ⟨r, d, k⟩ → r.rhs.drop d = β ++ r.rhs.drop (d + β.length) →
      Steps L i j ts → Chart G L start j ⟨r, d + β.length, k⟩ :=
  fun h => Chart.advanceOver h _

/-- a predicted item runs over a derivation of its whole right-hand side -/
theorem Chart.advanceRule {G : Grammar} {L : Lattice} {start i j r k ts} (hc : Chart G L start i ⟨r, 0, k⟩)
    (h : DerivesSeq G r.rhs ts) (hs : Steps L i j ts) : Chart G L start j ⟨r, r.rhs.length, k⟩ :=
  Nat.zero_add r.rhs.length ▸ Chart.advanceOver h [] hc (by simp) hs

end EarleyProto
