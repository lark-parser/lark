import LarkVerif.LexModel
/-! C07: the tiling theorem for the *executable* basic-lexer model (`LexModel.lexBasic` with ignore skipping and keyword retyping), not only for the
    list-level `lexAll`.  `lexAllPieces` is the same loop that additionally reports the ignored pieces; `lexBasic` is its projection (`LexEmit`).
    The run is a complete tiling (`lexAllPieces_tiles`) and the only one (`lexAllPieces_unique`); hence it does not depend on the fuel, and any
    stretch of pieces is its beginning. -/
namespace LexModel
open LexProto

/-- `(reported type, start, length, ignored?)` -/
abbrev Piece' := Nat × Nat × Nat × Bool

/-- the whole run: every match in order, ignored ones flagged; `stop` is where the run ended, `err` whether it ended in `UnexpectedCharacters` -/
def Lexer.lexAllPieces (L : Lexer) (F : Facts) (subset : List Nat) (n : Nat) : Nat → Nat → List Piece' × Nat × Bool
  | 0, pos => ([], pos, false)
  | fuel+1, pos =>
    if pos < n then
      let sorted := L.sorted subset
      match firstMatch F.mt pos (L.scanList sorted) with
      | none => ([], pos, true)
      | some (t, len) =>
        let ty := L.retype F sorted t pos len
        let (ps, stop, err) := L.lexAllPieces F subset n fuel (pos + max len 1)
        ((ty, pos, len, L.ignore.contains ty) :: ps, stop, err)
    else ([], pos, false)

/-- consecutive pieces from `p` to `q` -/
inductive Tiles' : Nat → List Piece' → Nat → Prop
  | nil (p) : Tiles' p [] p
  | cons (ty p len ig ps q) : 0 < len → Tiles' (p + len) ps q → Tiles' p ((ty, p, len, ig) :: ps) q

/-- `pc` is a piece the sub-lexer over `subset` produces at its start: first match of its scan list, keyword retyping, ignore flag -/
def PieceOf (L : Lexer) (F : Facts) (subset : List Nat) (pc : Piece') : Prop :=
  ∃ t, firstMatch F.mt pc.2.1 (L.scanList (L.sorted subset)) = some (t, pc.2.2.1) ∧
       pc.1 = L.retype F (L.sorted subset) t pc.2.1 pc.2.2.1 ∧ pc.2.2.2 = L.ignore.contains pc.1

theorem PieceOf.of_firstMatch {L : Lexer} {F : Facts} {subset : List Nat} {t pos len : Nat}
    (h : firstMatch F.mt pos (L.scanList (L.sorted subset)) = some (t, len)) :
    PieceOf L F subset (L.retype F (L.sorted subset) t pos len, pos, len, L.ignore.contains (L.retype F (L.sorted subset) t pos len)) :=
  ⟨t, h, rfl, rfl⟩

theorem Tiles'.le {p q : Nat} {ps : List Piece'} (h : Tiles' p ps q) : p ≤ q := by
  induction h with
  | nil => exact Nat.le_refl _
  | cons _ _ _ _ _ _ _ _ ih => exact Nat.le_trans (Nat.le_add_right ..) ih

theorem Tiles'.append {p q r : Nat} {a b : List Piece'} (h1 : Tiles' p a q) (h2 : Tiles' q b r) : Tiles' p (a ++ b) r := by
  induction h1 with
  | nil => simpa using h2
  | cons ty p len ig ps q hl _ ih => exact Tiles'.cons ty p len ig _ _ hl (ih h2)

section
variable {L : Lexer} {F : Facts} {subset : List Nat} {n : Nat}

theorem lexAllPieces_end {pos : Nat} (h : ¬ pos < n) (f : Nat) : L.lexAllPieces F subset n f pos = ([], pos, false) := by
  cases f <;> simp [Lexer.lexAllPieces, h]

theorem lexAllPieces_stuck {pos f : Nat} (hlt : pos < n) (hfm : firstMatch F.mt pos (L.scanList (L.sorted subset)) = none)
    (hf : n - pos ≤ f) : L.lexAllPieces F subset n f pos = ([], pos, true) := by
  cases f with
  | zero => exact absurd hlt (fuel_zero hf)
  | succ f => simp [Lexer.lexAllPieces, hlt, hfm]

variable (hpos : ∀ t p len, F.mt t p = some len → 0 < len ∧ p + len ≤ n)
include hpos

theorem lexAllPieces_cons {ty pos len : Nat} {ig : Bool} (hpc : PieceOf L F subset (ty, pos, len, ig)) (f : Nat) :
    L.lexAllPieces F subset n (f + 1) pos =
      ((ty, pos, len, ig) :: (L.lexAllPieces F subset n f (pos + len)).1, (L.lexAllPieces F subset n f (pos + len)).2) := by
  obtain ⟨t, hfm, hty, hig⟩ := hpc
  dsimp only at hfm hty hig
  obtain ⟨hl0, hle, hmax⟩ := firstMatch_bounds hpos hfm
  have hlt : pos < n := Nat.lt_of_lt_of_le (Nat.lt_add_of_pos_right hl0) hle
  simp only [Lexer.lexAllPieces, hlt, if_true, hfm, hmax, ← hty, ← hig]

/-- a tiling by pieces of the sub-lexer that ends as a run ends (`lexAllPieces_tiles`) is the run, whatever the fuel -/
theorem lexAllPieces_unique {p q : Nat} {ps : List Piece'} {err : Bool} (ht : Tiles' p ps q) (hps : ∀ x ∈ ps, PieceOf L F subset x)
    (hok : err = false → q = n) (herr : err = true → q < n ∧ firstMatch F.mt q (L.scanList (L.sorted subset)) = none)
    {f : Nat} (hf : n - p ≤ f) : L.lexAllPieces F subset n f p = (ps, q, err) := by
  induction ht generalizing f with
  | nil p =>
    cases err with
    | false => obtain rfl := hok rfl; exact lexAllPieces_end (Nat.lt_irrefl _) f
    | true => exact lexAllPieces_stuck (herr rfl).1 (herr rfl).2 hf
  | cons ty p len ig ps q hl ht ih =>
    obtain ⟨hpc, hps⟩ := List.forall_mem_cons.mp hps
    cases f with
    | zero =>
      obtain ⟨t, hfm, _⟩ := hpc
      exact absurd (Nat.lt_of_lt_of_le (Nat.lt_add_of_pos_right hl) (firstMatch_bounds hpos hfm).2.1) (fuel_zero hf)
    | succ f => rw [lexAllPieces_cons hpos hpc f, ih hps hok herr (fuel_step hl hf)]

end

/-- **Tiling of the executable model.** With a matcher that only reports non-empty matches inside the text, all pieces (emitted and ignored) are
    consecutive and non-empty from the start to `stop`; every piece is the first terminal of the scan list (sorted order minus embedded keywords) that
    matches at its start, with that terminal's own length, reported under the keyword-exception type; and the run stops at the end of the text or at the
    first position where no terminal of the scan list matches. -/
theorem lexAllPieces_tiles (L : Lexer) (F : Facts) (subset : List Nat) (n : Nat)
    (hpos : ∀ t p len, F.mt t p = some len → 0 < len ∧ p + len ≤ n) :
    ∀ fuel pos, pos ≤ n → n - pos ≤ fuel →
      let r := L.lexAllPieces F subset n fuel pos
      Tiles' pos r.1 r.2.1 ∧ (∀ pc ∈ r.1, PieceOf L F subset pc) ∧
      (r.2.2 = false → r.2.1 = n) ∧
      (r.2.2 = true → r.2.1 < n ∧ firstMatch F.mt r.2.1 (L.scanList (L.sorted subset)) = none) := by
  intro fuel pos h1 h2
  fun_induction Lexer.lexAllPieces L F subset n fuel pos with
  | case1 pos => exact ⟨Tiles'.nil _, by simp, fun _ => Nat.le_antisymm h1 (Nat.le_of_not_lt (fuel_zero h2)), by simp⟩
  | case2 fuel pos hlt _ hfm => exact ⟨Tiles'.nil _, by simp, by simp, fun _ => ⟨hlt, hfm⟩⟩
  | case3 fuel pos hlt _ t len hfm _ ps stop err hrec ih =>
    obtain ⟨hl0, hle, hmax⟩ := firstMatch_bounds hpos hfm
    rw [hmax] at hrec ih
    rw [hrec] at ih
    obtain ⟨htiles, hfirst, hend⟩ := ih hle (fuel_step hl0 h2)
    exact ⟨Tiles'.cons _ pos len _ _ _ hl0 htiles, List.forall_mem_cons.mpr ⟨.of_firstMatch hfm, hfirst⟩, hend⟩
  | case4 fuel pos hlt => exact ⟨Tiles'.nil _, by simp, fun _ => Nat.le_antisymm h1 (Nat.le_of_not_lt hlt), by simp⟩

/-- the run of all pieces does not depend on the fuel once there is enough of it -/
theorem lexAllPieces_fuel (L : Lexer) (F : Facts) (subset : List Nat) (n : Nat)
    (hpos : ∀ t p len, F.mt t p = some len → 0 < len ∧ p + len ≤ n) :
    ∀ f pos f', pos ≤ n → n - pos ≤ f → n - pos ≤ f' → L.lexAllPieces F subset n f pos = L.lexAllPieces F subset n f' pos := by
  intro f pos f' h1 h2 h3
  obtain ⟨ht, hps, hok, herr⟩ := lexAllPieces_tiles L F subset n hpos f pos h1 h2
  exact (lexAllPieces_unique hpos ht hps hok herr h3).symm

theorem lexAllPieces_prefix {L : Lexer} {F : Facts} {subset : List Nat} {n : Nat} (hpos : ∀ t p len, F.mt t p = some len → 0 < len ∧ p + len ≤ n)
    {p q : Nat} {ps : List Piece'} (ht : Tiles' p ps q) (hps : ∀ x ∈ ps, PieceOf L F subset x) (hq : q ≤ n)
    {f f' : Nat} (hf : n - p ≤ f) (hf' : n - q ≤ f') :
    L.lexAllPieces F subset n f p = (ps ++ (L.lexAllPieces F subset n f' q).1, (L.lexAllPieces F subset n f' q).2) := by
  obtain ⟨ht', hps', hok, herr⟩ := lexAllPieces_tiles L F subset n hpos f' q hq hf'
  exact lexAllPieces_unique hpos (ht.append ht') (List.forall_mem_append.mpr ⟨hps, hps'⟩) hok herr hf

/-- dropping the ignored pieces: what the lexer hands to the parser -/
def emitted (ps : List Piece') : List Piece := (ps.filter (fun p => !p.2.2.2)).map (fun p => (p.1, p.2.1, p.2.2.1))

theorem emitted_append (a b : List Piece') : emitted (a ++ b) = emitted a ++ emitted b := by
  simp [emitted]

theorem emitted_ignored {sk : List Piece'} (h : ∀ x ∈ sk, x.2.2.2 = true) : emitted sk = [] := by
  simp only [emitted, List.map_eq_nil_iff, List.filter_eq_nil_iff]
  intro x hx; simp [h x hx]

end LexModel
