import LarkVerif.LexCtxTiling
import LarkVerif.Extracted
/-! # C07 — the lexer tiles the input by documented precedence; contextual refines basic -/
namespace Props.C07
open LexProto LexModel

/-- the sort key in the current source is the documented one (re-checked against the source text on every run) -/
theorem sort_key_is_documented :
    Extracted.lexerSortKey = [("-", "x.priority"), ("-", "x.pattern.max_width"), ("-", "len(x.pattern.value)"), ("+", "x.name")] := rfl

/-- the scan order is a permutation of the terminals sorted by: higher priority, longer maximal width, longer pattern, name -/
theorem scan_order_sorted (L : Lexer) (subset : List Nat) :
    (L.sorted subset).Pairwise (fun i j => termLe (L.info i) (L.info j) = true) ∧ (L.sorted subset).Perm subset :=
  ⟨sorted_pairwise L subset, sorted_perm L subset⟩

/-- **Tiling.** The emitted and ignored pieces are consecutive, non-empty, each the *first* terminal in scan order that matches at its
    start (with that terminal's own match length), and they cover the text up to its end or up to the reported error position,
    where no terminal matches. -/
theorem lex_tiles (m : Matcher) (ts : List Nat) (n : Nat) (hpos : ∀ t p len, m t p = some len → 0 < len ∧ p + len ≤ n)
    (fuel pos : Nat) (h1 : pos ≤ n) (h2 : n - pos ≤ fuel) :
    ∃ stop, Tiles pos (lexAll m ts n fuel pos).1 stop ∧
      (∀ pc ∈ (lexAll m ts n fuel pos).1, firstMatch m pc.2.1 ts = some (pc.1, pc.2.2)) ∧
      ((lexAll m ts n fuel pos).2 = none → stop = n) ∧
      (∀ e, (lexAll m ts n fuel pos).2 = some e → stop = e ∧ e < n ∧ firstMatch m e ts = none) :=
  lexAll_tiles m ts n hpos fuel pos h1 h2

/-- **Tiling of the executable basic-lexer model** (sort, keyword carve-out, retyping, ignore skipping): all pieces — emitted and ignored — are
    consecutive and non-empty; each is the first terminal of the scan list that matches at its start, with its own length, reported under the
    keyword-exception type; the run ends at the end of the text or at the first position where nothing in the scan list matches. -/
theorem executable_lexer_tiles (L : Lexer) (F : Facts) (subset : List Nat) (n : Nat)
    (hpos : ∀ t p len, F.mt t p = some len → 0 < len ∧ p + len ≤ n) (fuel pos : Nat) (h1 : pos ≤ n) (h2 : n - pos ≤ fuel) :
    let r := L.lexAllPieces F subset n fuel pos
    Tiles' pos r.1 r.2.1 ∧
    (∀ pc ∈ r.1, ∃ t, firstMatch F.mt pc.2.1 (L.scanList (L.sorted subset)) = some (t, pc.2.2.1) ∧
                      pc.1 = L.retype F (L.sorted subset) t pc.2.1 pc.2.2.1 ∧ pc.2.2.2 = L.ignore.contains pc.1) ∧
    (r.2.2 = false → r.2.1 = n) ∧
    (r.2.2 = true → r.2.1 < n ∧ firstMatch F.mt r.2.1 (L.scanList (L.sorted subset)) = none) :=
  lexAllPieces_tiles L F subset n hpos fuel pos h1 h2

/-- **What the basic lexer returns is that tiling with the ignored pieces dropped.**  `lexBasic` (the loop of `BasicLexer.lex` over `next_token`, which
    skips `%ignore` matches silently) returns exactly the non-ignored pieces of the run of `executable_lexer_tiles`, in order, and ends in
    `UnexpectedCharacters` exactly where that run finds nothing to match — with the non-ignored scan terminals as `allowed`. -/
theorem basic_lexer_emits_the_tiling (L : Lexer) (F : Facts) (all : List Nat) (n : Nat)
    (hpos : ∀ t p len, F.mt t p = some len → 0 < len ∧ p + len ≤ n) (f1 pos f2 : Nat) (h1 : pos ≤ n) (h2 : n - pos ≤ f1) (h3 : n - pos ≤ f2) :
    L.lexBasic F all n f1 pos =
      (emitted (L.lexAllPieces F all n f2 pos).1,
       if (L.lexAllPieces F all n f2 pos).2.2 then some (.chars (L.lexAllPieces F all n f2 pos).2.1 (L.allowed all)) else none) :=
  lexBasic_eq_emitted L F all n hpos f1 pos f2 h1 h2 h3

/-- splitting the alternation into chunks (Python's 100-group limit) never changes the token -/
theorem chunking_irrelevant (m : Matcher) (pos : Nat) (a b : List Nat) :
    firstMatch m pos (a ++ b) = (firstMatch m pos a).or (firstMatch m pos b) := firstMatch_append m pos a b

/-- **Contextual refines basic.** Restricting the scan to the terminals the parser accepts (a sub-list in the same order) keeps the basic
    lexer's choice whenever that choice is acceptable. -/
theorem contextual_refines_basic {m : Matcher} {pos : Nat} {ts ts' : List Nat} (hsub : List.Sublist ts' ts) (hnd : ts.Nodup)
    {t len : Nat} (h : firstMatch m pos ts = some (t, len)) (hmem : t ∈ ts') : firstMatch m pos ts' = some (t, len) :=
  firstMatch_sublist hsub hnd h hmem

/-- **Tiling of the contextual lexer model** (`ContextualLexer.lex`: per emitted token one `next_token` of the sub-lexer of the parser's state).
    The run consumes a prefix `used` of the state sequence, one state per emitted token; the stretch of each token — the ignored pieces its
    sub-lexer skipped and the token itself — is consecutive and non-empty, and every piece is the first terminal *of that state's scan list*
    matching at its start, with keyword retyping (`PieceOf`: the basic lexer's rule restricted to the state's terminals).  The run ends (`CtxEnd`)
    at the end of the text, or where — after that state's ignored pieces — nothing of its scan list matches: `UnexpectedToken` iff the root
    lexer finds a token there, otherwise `UnexpectedCharacters`, both with the state's non-ignored terminals as `allowed`. -/
theorem contextual_lexer_tiles (L : Lexer) (F : Facts) (all : List Nat) (n : Nat)
    (hpos : ∀ t p len, F.mt t p = some len → 0 < len ∧ p + len ≤ n) (subs : List (List Nat)) (pos : Nat) (h : pos ≤ n) :
    ∃ q used rest, subs = used ++ rest ∧ used.length = (L.lexCtx F all n subs pos).1.length ∧
      CtxTiles L F used pos (L.lexCtx F all n subs pos).1 q ∧ q ≤ n ∧ CtxEnd L F all n rest q (L.lexCtx F all n subs pos).2 :=
  lexCtx_tiles L F all n hpos subs pos h

/-- **Keyword exception**, as decision logic. -/
theorem keyword_exception (L : Lexer) (F : Facts) (sorted : List Nat) (t pos len : Nat) :
    (∃ s, (L.unlessOf sorted t).find? (fun s => F.full s pos len) = some s ∧ L.retype F sorted t pos len = s) ∨
    ((L.unlessOf sorted t).find? (fun s => F.full s pos len) = none ∧ L.retype F sorted t pos len = t) := retype_eq L F sorted t pos len

theorem keyword_candidates (L : Lexer) (sorted : List Nat) (re s : Nat) (h : s ∈ L.unlessOf sorted re) :
    (L.info re).isStr = false ∧ (L.info s).isStr = true ∧ (L.info s).prio = (L.info re).prio ∧ (re, s) ∈ L.selfMatch :=
  unlessOf_mem L sorted re s h

theorem string_terminals_keep_type (L : Lexer) (F : Facts) (sorted : List Nat) (t pos len : Nat) (h : (L.info t).isStr = true) :
    L.retype F sorted t pos len = t := retype_str L F sorted t pos len h

-- non-vacuity: identifier /[a-z]+/ (0), blank (2) on a 4-character text: pieces tile it
private def exM : Matcher := fun t p => if t = 0 ∧ p = 0 then some 2 else if t = 0 ∧ p = 3 then some 1 else if t = 2 ∧ p = 2 then some 1 else none
example : lexAll exM [0, 2] 4 4 0 = ([(0, 0, 2), (2, 2, 1), (0, 3, 1)], none) := by decide
example : firstMatch exM 2 ([0] ++ [2]) = some (2, 1) := by decide

end Props.C07
