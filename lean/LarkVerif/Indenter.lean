namespace IndProto

/-- the tokens the Indenter distinguishes: a newline token with the indentation that follows its last '\n' -/
inductive Tok where
  | nl (indent : Nat)
  | openP
  | closeP
  | other (ty : Nat)
deriving DecidableEq, Repr

inductive Ev where
  | tok (t : Tok)
  | indent
  | dedent
deriving DecidableEq, Repr

inductive Err where
  | dedentError
  | assertFail
deriving DecidableEq, Repr

structure St where
  paren : Nat
  levels : List Nat      -- top first; Python's `indent_level` reversed
deriving Repr

def St.init : St := ⟨0, [0]⟩

/-- `while indent < self.indent_level[-1]: pop; yield DEDENT` -/
def popWhile (indent : Nat) : List Nat → List Nat × Nat
  | [] => ([], 0)
  | top :: rest => if indent < top then let (s, k) := popWhile indent rest; (s, k + 1) else (top :: rest, 0)

/-- lark/indenter.py:33 handle_NL -/
def handleNL (st : St) (indent : Nat) : Except Err (List Ev × St) :=
  if st.paren > 0 then .ok ([], st)
  else
    match st.levels with
    | [] => .error .assertFail
    | top :: _ =>
      if indent > top then .ok ([Ev.tok (.nl indent), Ev.indent], { st with levels := indent :: st.levels })
      else
        let (lv, k) := popWhile indent st.levels
        match lv with
        | [] => .error .assertFail
        | top' :: _ =>
          if indent ≠ top' then .error .dedentError
          else .ok (Ev.tok (.nl indent) :: List.replicate k Ev.dedent, { st with levels := lv })

/-- lark/indenter.py:53 _process, loop body -/
def stepTok (st : St) (t : Tok) : Except Err (List Ev × St) :=
  match t with
  | .nl indent => handleNL st indent
  | .openP => .ok ([Ev.tok t], { st with paren := st.paren + 1 })
  | .closeP => if st.paren = 0 then .error .assertFail else .ok ([Ev.tok t], { st with paren := st.paren - 1 })
  | .other _ => .ok ([Ev.tok t], st)

def processFrom : St → List Tok → Except Err (List Ev)
  | st, [] => .ok (List.replicate (st.levels.length - 1) Ev.dedent)
  | st, t :: ts =>
    match stepTok st t with
    | .error e => .error e
    | .ok (out, st') =>
      match processFrom st' ts with
      | .error e => .error e
      | .ok rest => .ok (out ++ rest)

/-- lark/indenter.py:73 process: state is reset, whatever happened before -/
def process (_old : St) (toks : List Tok) : Except Err (List Ev) := processFrom St.init toks

def nInd (l : List Ev) : Nat := l.count Ev.indent
def nDed (l : List Ev) : Nat := l.count Ev.dedent

theorem popWhile_length (indent : Nat) (l : List Nat) : (popWhile indent l).1.length + (popWhile indent l).2 = l.length := by
  fun_induction popWhile indent l with
  | case1 | case3 => rfl
  | case2 _ _ _ _ _ hpop ih => rw [hpop] at ih; exact congrArg Nat.succ ih

theorem count_replicate_dedent (k : Nat) : nDed (List.replicate k Ev.dedent) = k ∧ nInd (List.replicate k Ev.dedent) = 0 := by
  simp [nDed, nInd, List.count_replicate]

theorem handleNL_paren {st : St} {indent : Nat} (h : st.paren > 0) : handleNL st indent = .ok ([], st) := if_pos h

theorem handleNL_indent {st : St} {indent top : Nat} {rest : List Nat} (hp : st.paren = 0) (hl : st.levels = top :: rest) (h : indent > top) :
    handleNL st indent = .ok ([Ev.tok (.nl indent), Ev.indent], { st with levels := indent :: st.levels }) := by
  simp [handleNL, hp, hl, h]

/-- leave the stack alone (any token but a newline; a newline inside brackets), push a deeper level with one INDENT, or pop, one DEDENT each, down to
    an open level equal to the new indentation -/
theorem stepTok_ok {st st' : St} {t : Tok} {out : List Ev} (h : stepTok st t = .ok (out, st')) :
    (st'.levels = st.levels ∧ nInd out = 0 ∧ nDed out = 0) ∨
    (∃ indent top rest, st.levels = top :: rest ∧ top < indent ∧ st'.levels = indent :: st.levels ∧ nInd out = 1 ∧ nDed out = 0) ∨
    (∃ indent, st'.levels = (popWhile indent st.levels).1 ∧ st'.levels.head? = some indent ∧
      nInd out = 0 ∧ nDed out = (popWhile indent st.levels).2) := by
  cases t with
  | openP => cases h; exact .inl ⟨rfl, rfl, rfl⟩
  | other ty => cases h; exact .inl ⟨rfl, rfl, rfl⟩
  | closeP =>
    simp only [stepTok] at h
    split at h
    · cases h
    · cases h; exact .inl ⟨rfl, rfl, rfl⟩
  | nl indent =>
    change handleNL st indent = _ at h
    revert h
    -- the branches of `handleNL`: inside brackets; empty stack; deeper; popped to nothing; popped to another level; popped to `indent`
    fun_cases handleNL st indent with
    | case1 hp => intro h; cases h; exact .inl ⟨rfl, rfl, rfl⟩
    | case2 => nofun
    | case3 _ top rest hl hgt => intro h; cases h; exact .inr (.inl ⟨indent, top, rest, hl, hgt, rfl, rfl, rfl⟩)
    | case4 => nofun
    | case5 => nofun
    | case6 _ _ _ _ _ k top' rest' he hpop =>
      intro h; cases h
      refine .inr (.inr ⟨indent, by rw [hpop], by rw [Decidable.of_not_not he]; rfl, ?_, ?_⟩)
      · exact (List.count_cons_of_ne (by simp)).trans (count_replicate_dedent k).2
      · rw [hpop]; exact (List.count_cons_of_ne (by simp)).trans (count_replicate_dedent k).1

theorem stepTok_balance {st st' : St} {t : Tok} {out : List Ev} (h : stepTok st t = .ok (out, st')) :
    nInd out + st.levels.length = nDed out + st'.levels.length := by
  rcases stepTok_ok h with ⟨hl, hi, hd⟩ | ⟨_, _, _, _, _, hl, hi, hd⟩ | ⟨indent, hl, _, hi, hd⟩
  · rw [hl, hi, hd]
  · rw [hl, hi, hd, List.length_cons]; omega
  · rw [hl, hi, hd, ← popWhile_length indent st.levels]; omega

theorem stepTok_nonempty {st st' : St} {t : Tok} {out : List Ev} (h : stepTok st t = .ok (out, st')) (hl : st.levels.length ≥ 1) :
    st'.levels.length ≥ 1 := by
  rcases stepTok_ok h with ⟨hl', _⟩ | ⟨_, _, _, _, _, hl', _⟩ | ⟨_, _, hh, _⟩
  · rw [hl']; exact hl
  · rw [hl']; simp
  · cases hs : st'.levels with
    | nil => rw [hs] at hh; cases hh
    | cons _ _ => simp

theorem processFrom_balance {st : St} {toks : List Tok} {out : List Ev} (h : processFrom st toks = .ok out) (hl : st.levels.length ≥ 1) :
    nInd out + st.levels.length = nDed out + 1 := by
  fun_induction processFrom st toks generalizing out with
  | case1 st =>
    cases h
    have := count_replicate_dedent (st.levels.length - 1)
    rw [this.1, this.2]; omega
  | case2 | case3 => cases h
  | case4 st t ts o st' hstep rest hrest ih =>
    cases h
    have h1 := stepTok_balance hstep
    have h2 := ih hrest (stepTok_nonempty hstep hl)
    simp only [nInd, nDed, List.count_append] at h1 h2 ⊢
    omega

/-- INDENT and DEDENT are balanced at the end of every stream that does not raise,
    for any prior state of the Indenter object (C18, last sentence; C10's reset clause). -/
theorem process_balanced (old : St) (toks : List Tok) (out : List Ev) (h : process old toks = .ok out) :
    nInd out = nDed out := by
  simpa [St.init] using processFrom_balance h (Nat.le_refl 1)

end IndProto
