import LarkVerif.Earley
namespace LRProto
open EarleyProto

inductive Action where
  | shift (q : Nat)
  | reduce (r : Rule)

/-- an annotated parse table: `items q` is the LR(0) item set lark keeps for state `q` -/
structure Table where
  items : Nat → List (Rule × Nat)
  action : Nat → Nat → Option Action    -- state, terminal
  goto : Nat → Nat → Option Nat         -- state, nonterminal
  start : Nat
  final : Nat

def Table.trans (T : Table) (p : Nat) (X : Sym) (q : Nat) : Prop :=
  match X with
  | Sym.t a => T.action p a = some (Action.shift q)
  | Sym.nt A => T.goto p A = some q

/-- the local certificate (decidable for a finite table; here stated as a Prop) -/
structure TableSafe (G : Grammar) (T : Table) (startSym : Nat) : Prop where
  succ_items : ∀ p X q, T.trans p X q → ∀ r d, (r, d) ∈ T.items q →
      d = 0 ∨ ∃ d', d = d' + 1 ∧ r.rhs[d']? = some X ∧ (r, d') ∈ T.items p
  reduce_item : ∀ q t r, T.action q t = some (Action.reduce r) → (r, r.rhs.length) ∈ T.items q ∧ r ∈ G.rules
  start_items : ∀ r d, (r, d) ∈ T.items T.start → d = 0
  final_pred : ∀ p X, T.trans p X T.final → p = T.start ∧ X = Sym.nt startSym
  start_no_pred : ∀ p X, ¬ T.trans p X T.start

structure Config where
  states : List Nat                 -- top first
  vals : List (Sym × List Nat)      -- top first: symbol and its yield

/-- concatenated yields of a value stack given top first -/
def yieldOf : List (Sym × List Nat) → List Nat
  | [] => []
  | v :: vs => yieldOf vs ++ v.2

theorem yieldOf_eq (l : List (Sym × List Nat)) : yieldOf l = (l.reverse.map (·.2)).flatten := by
  induction l with
  | nil => rfl
  | cons v l ih => simp [yieldOf, ih]

theorem yieldOf_append (a b : List (Sym × List Nat)) : yieldOf (a ++ b) = yieldOf b ++ yieldOf a := by
  simp [yieldOf_eq]

theorem derives_concat {G : Grammar} : ∀ (l : List (Sym × List Nat)), (∀ v ∈ l, DerivesSeq G [v.1] v.2) →
    DerivesSeq G (l.map (·.1)) (l.map (·.2)).flatten := by
  intro l
  induction l with
  | nil => intro _; exact DerivesSeq.nil
  | cons v l ih =>
    intro h
    simpa using DerivesSeq.append (h v (List.mem_cons_self ..)) (ih fun w hw => h w (List.mem_cons_of_mem _ hw))

theorem derives_yieldOf {G : Grammar} (l : List (Sym × List Nat)) (h : ∀ v ∈ l, DerivesSeq G [v.1] v.2) :
    DerivesSeq G (l.map (·.1)).reverse (yieldOf l) := by
  rw [yieldOf_eq, ← List.map_reverse]
  exact derives_concat l.reverse fun v hv => h v (List.mem_reverse.mp hv)

inductive Outcome where
  | shifted (c : Config)
  | accept (v : Sym × List Nat)
  | error
  | crash
  | loop

/-- lark/parsers/lalr_parser_state.py:67 feed_token -/
def reduceLoop (T : Table) (t : Nat) (isEnd : Bool) : Nat → Config → Outcome
  | 0, _ => Outcome.loop
  | f+1, cfg =>
    match cfg.states with
    | [] => Outcome.crash
    | q :: _ =>
      match T.action q t with
      | none => Outcome.error
      | some (Action.shift q') =>
          if isEnd then Outcome.crash
          else Outcome.shifted ⟨q' :: cfg.states, (Sym.t t, [t]) :: cfg.vals⟩
      | some (Action.reduce r) =>
          let n := r.rhs.length
          let popped := cfg.vals.take n
          let sts := cfg.states.drop n
          match sts with
          | [] => Outcome.crash
          | p :: _ =>
            match T.goto p r.lhs with
            | none => Outcome.crash
            | some p' =>
              let v : Sym × List Nat := (Sym.nt r.lhs, yieldOf popped)
              if isEnd && p' == T.final then Outcome.accept v
              else reduceLoop T t isEnd f ⟨p' :: sts, v :: cfg.vals.drop n⟩

theorem reduceLoop_shift {T : Table} {t f q q' : Nat} {ss : List Nat} {vals : List (Sym × List Nat)}
    (hact : T.action q t = some (Action.shift q')) :
    reduceLoop T t false (f+1) ⟨q :: ss, vals⟩ = Outcome.shifted ⟨q' :: q :: ss, (Sym.t t, [t]) :: vals⟩ := by
  simp [reduceLoop, hact]

/-- the premises are those of `Step.reduce` -/
theorem reduceLoop_reduce {T : Table} {t : Nat} {isEnd : Bool} {f q p p' : Nat} {ss ss' : List Nat} {vals : List (Sym × List Nat)} {r : Rule}
    (hact : T.action q t = some (Action.reduce r)) (hdrop : (q :: ss).drop r.rhs.length = p :: ss') (hgoto : T.goto p r.lhs = some p') :
    reduceLoop T t isEnd (f+1) ⟨q :: ss, vals⟩ =
      if isEnd && p' == T.final then Outcome.accept (Sym.nt r.lhs, yieldOf (vals.take r.rhs.length))
      else reduceLoop T t isEnd f ⟨p' :: p :: ss', (Sym.nt r.lhs, yieldOf (vals.take r.rhs.length)) :: vals.drop r.rhs.length⟩ := by
  simp only [reduceLoop, hact, hdrop, hgoto]

def parseFrom (T : Table) (eof fuel : Nat) : Config → List Nat → Outcome
  | cfg, [] => reduceLoop T eof true fuel cfg
  | cfg, t :: ts =>
    match reduceLoop T t false fuel cfg with
    | Outcome.shifted cfg' => parseFrom T eof fuel cfg' ts
    | o => o

def parse (T : Table) (eof fuel : Nat) (toks : List Nat) : Outcome :=
  parseFrom T eof fuel ⟨[T.start], []⟩ toks

/-- one reduction: pop |rhs| entries, push the goto state and the new value -/
def reduceStep (T : Table) (r : Rule) (cfg : Config) : Option Config :=
  match cfg.states.drop r.rhs.length with
  | [] => none
  | p :: rest =>
    match T.goto p r.lhs with
    | none => none
    | some p' => some ⟨p' :: p :: rest, (Sym.nt r.lhs, yieldOf (cfg.vals.take r.rhs.length)) :: cfg.vals.drop r.rhs.length⟩

theorem reduceStep_eq_some {T : Table} {r : Rule} {cfg cfg' : Config} (h : reduceStep T r cfg = some cfg') :
    ∃ p ss p', cfg.states.drop r.rhs.length = p :: ss ∧ T.goto p r.lhs = some p' ∧
      cfg' = ⟨p' :: p :: ss, (Sym.nt r.lhs, yieldOf (cfg.vals.take r.rhs.length)) :: cfg.vals.drop r.rhs.length⟩ := by
  unfold reduceStep at h
  split at h
  · cases h
  · split at h
    · cases h
    · cases h; exact ⟨_, _, _, ‹_›, ‹_›, rfl⟩

/-- the stacks after the run of reductions `feed_token(t)` performs before it shifts, accepts or raises -/
def reductionsOn (T : Table) (t : Nat) (isEnd : Bool) : Nat → Config → Config
  | 0, cfg => cfg
  | f+1, cfg =>
    match cfg.states with
    | [] => cfg
    | q :: _ =>
      match T.action q t with
      | some (Action.reduce r) =>
        match reduceStep T r cfg with
        | none => cfg
        | some cfg' => if isEnd && cfg'.states.head? == some T.final then cfg' else reductionsOn T t isEnd f cfg'
      | _ => cfg

/-- What an outcome of `reduceLoop` says about the stacks it was reached on, which are those `reductionsOn` computes. -/
inductive Verdict (T : Table) (t : Nat) (isEnd : Bool) (c : Config) : Outcome → Prop
  | error (q ss) : c.states = q :: ss → T.action q t = none → Verdict T t isEnd c .error
  | shifted (q ss q') : isEnd = false → c.states = q :: ss → T.action q t = some (.shift q') →
      Verdict T t isEnd c (.shifted ⟨q' :: c.states, (Sym.t t, [t]) :: c.vals⟩)
  | accept (ss v vs) : isEnd = true → c.states = T.final :: ss → c.vals = v :: vs → Verdict T t isEnd c (.accept v)
  | crash : Verdict T t isEnd c .crash
  | loop : Verdict T t isEnd c .loop

theorem reduceLoop_vs_reductionsOn {T : Table} {t : Nat} {isEnd : Bool} {fuel : Nat} {cfg : Config} {o : Outcome}
    (h : reduceLoop T t isEnd fuel cfg = o) : Verdict T t isEnd (reductionsOn T t isEnd fuel cfg) o := by
  subst h
  induction fuel generalizing cfg with
  | zero => exact .loop
  | succ f ih =>
    obtain ⟨states, vals⟩ := cfg
    cases states with
    | nil => exact .crash
    | cons q ss =>
      rw [reduceLoop, reductionsOn]
      dsimp only [reduceStep]
      cases hact : T.action q t with
      | none => exact .error q ss rfl hact
      | some a =>
        cases a with
        | shift q' =>
          cases isEnd with
          | true => exact .crash
          | false => exact .shifted q ss q' rfl rfl hact
        | reduce r =>
          simp only
          cases (q :: ss).drop r.rhs.length with
          | nil => exact .crash
          | cons p ss' =>
            simp only
            cases T.goto p r.lhs with
            | none => exact .crash
            | some p' =>
              simp only [List.head?_cons, Option.some_beq_some]
              by_cases hfin : (isEnd && p' == T.final) = true
              · simp only [hfin, ↓reduceIte]
                simp only [Bool.and_eq_true, beq_iff_eq] at hfin
                exact .accept _ _ _ hfin.1 (by rw [hfin.2]) rfl
              · simp only [hfin]
                exact ih

theorem reduceLoop_accept_end {T : Table} {t fuel : Nat} {isEnd : Bool} {cfg : Config} {v : Sym × List Nat}
    (h : reduceLoop T t isEnd fuel cfg = Outcome.accept v) : isEnd = true := by
  cases reduceLoop_vs_reductionsOn h with
  | accept _ _ _ hend => exact hend

theorem reduceLoop_shifted_not_end {T : Table} {t fuel : Nat} {isEnd : Bool} {cfg cfg' : Config}
    (h : reduceLoop T t isEnd fuel cfg = Outcome.shifted cfg') : isEnd = false := by
  cases reduceLoop_vs_reductionsOn h with
  | shifted _ _ _ hend => exact hend

/-- feed a token prefix (no end-of-input): the state after the last shift, or the first failure -/
def feedAll (T : Table) (F : Nat) : Config → List Nat → Outcome
  | cfg, [] => Outcome.shifted cfg
  | cfg, t :: ts =>
    match reduceLoop T t false F cfg with
    | Outcome.shifted cfg' => feedAll T F cfg' ts
    | o => o

theorem parseFrom_append_accept {T : Table} {eof F : Nat} {v : Sym × List Nat} {pre post : List Nat} {cfg : Config}
    (h : parseFrom T eof F cfg (pre ++ post) = Outcome.accept v) :
    ∃ cfg', feedAll T F cfg pre = Outcome.shifted cfg' ∧ parseFrom T eof F cfg' post = Outcome.accept v := by
  induction pre generalizing cfg with
  | nil => exact ⟨cfg, rfl, h⟩
  | cons t ts ih =>
    rw [List.cons_append, parseFrom] at h
    rw [feedAll]
    split at h
    · exact ih h
    · cases reduceLoop_accept_end h

/-- the state stack spells a path of the automaton labelled by the value stack's symbols -/
inductive StackPath (T : Table) : List Nat → List (Sym × List Nat) → Prop
  | base : StackPath T [T.start] []
  | push (q p ss X y vs) : StackPath T (p :: ss) vs → T.trans p X q → StackPath T (q :: p :: ss) ((X, y) :: vs)

structure Inv (G : Grammar) (T : Table) (cfg : Config) (consumed : List Nat) : Prop where
  path : StackPath T cfg.states cfg.vals
  derives : ∀ v ∈ cfg.vals, DerivesSeq G [v.1] v.2
  yield : yieldOf cfg.vals = consumed

theorem StackPath.length {T : Table} {ss vs} (h : StackPath T ss vs) : ss.length = vs.length + 1 := by
  induction h with
  | base => rfl
  | push => simp_all

theorem StackPath.drop {T : Table} {ss vs} (h : StackPath T ss vs) {n : Nat} (hn : n ≤ vs.length) :
    StackPath T (ss.drop n) (vs.drop n) := by
  induction n generalizing ss vs with
  | zero => exact h
  | succ n ih =>
    cases h with
    | base => cases hn
    | push q p ss X y vs hp _ => exact ih hp (Nat.le_of_succ_le_succ hn)

/-- items of the top state are suffix-consistent with the stack -/
theorem StackPath.items_prefix {G : Grammar} {T : Table} {s0 : Nat} (hT : TableSafe G T s0) {ss vs}
    (h : StackPath T ss vs) : ∀ q, ss.head? = some q → ∀ r d, (r, d) ∈ T.items q →
      (r.rhs.take d).reverse <+: vs.map (·.1) := by
  induction h with
  | base =>
    rintro _ ⟨⟩ r d hi
    obtain rfl := hT.start_items r d hi
    exact List.nil_prefix
  | push q p ss X y vs hp ht ih =>
    rintro _ ⟨⟩ r d hi
    rcases hT.succ_items p X q ht r d hi with rfl | ⟨d', rfl, hX, hi'⟩
    · exact List.nil_prefix
    · rw [List.take_add_one, hX]
      simpa using ih p rfl r d' hi'

theorem StackPath.reduce_spells {G : Grammar} {T : Table} {s0 : Nat} (hT : TableSafe G T s0) {q ss vs} (h : StackPath T (q :: ss) vs)
    {t : Nat} {r : Rule} (hact : T.action q t = some (Action.reduce r)) :
    r ∈ G.rules ∧ r.rhs.length ≤ vs.length ∧ (vs.take r.rhs.length).map (·.1) = r.rhs.reverse := by
  obtain ⟨hitem, hrule⟩ := hT.reduce_item q t r hact
  have hpre := h.items_prefix hT q rfl r r.rhs.length hitem
  rw [List.take_length] at hpre
  have hlen := hpre.length_le
  have htake := List.prefix_iff_eq_take.mp hpre
  rw [List.length_reverse] at hlen htake
  exact ⟨hrule, by simpa using hlen, by rw [List.map_take]; exact htake.symm⟩

theorem Inv.init {G : Grammar} {T : Table} : Inv G T ⟨[T.start], []⟩ [] := ⟨StackPath.base, by simp, rfl⟩

theorem Inv.shift {G : Grammar} {T : Table} {cfg : Config} {consumed : List Nat} (h : Inv G T cfg consumed) {q ss t q'}
    (hq : cfg.states = q :: ss) (hact : T.action q t = some (Action.shift q')) :
    Inv G T ⟨q' :: cfg.states, (Sym.t t, [t]) :: cfg.vals⟩ (consumed ++ [t]) := by
  refine ⟨?_, ?_, congrArg (· ++ [t]) h.yield⟩
  · have hp := h.path
    rw [hq] at hp ⊢
    exact StackPath.push q' q ss (Sym.t t) [t] _ hp hact
  · intro v hv
    rcases List.mem_cons.mp hv with rfl | hv
    · exact DerivesSeq.term t [] [] DerivesSeq.nil
    · exact h.derives v hv

theorem Inv.reduce {G : Grammar} {T : Table} {s0 : Nat} (hT : TableSafe G T s0) {cfg cfg' : Config} {consumed : List Nat}
    (h : Inv G T cfg consumed) {q ss t r} (hq : cfg.states = q :: ss) (hact : T.action q t = some (Action.reduce r))
    (hstep : reduceStep T r cfg = some cfg') : Inv G T cfg' consumed := by
  obtain ⟨p, ss', p', hdrop, hgoto, rfl⟩ := reduceStep_eq_some hstep
  have hp := h.path
  rw [hq] at hp
  obtain ⟨hrule, hlen, hpop⟩ := hp.reduce_spells hT hact
  refine ⟨?_, ?_, ?_⟩
  · have hd := h.path.drop hlen
    rw [hdrop] at hd
    exact StackPath.push p' p ss' (Sym.nt r.lhs) _ _ hd hgoto
  · intro v hv
    rcases List.mem_cons.mp hv with rfl | hv
    · have h1 := derives_yieldOf (G := G) (cfg.vals.take r.rhs.length) fun v hv => h.derives v (List.mem_of_mem_take hv)
      rw [hpop, List.reverse_reverse] at h1
      exact DerivesSeq.single hrule h1
    · exact h.derives v (List.mem_of_mem_drop hv)
  · show yieldOf (cfg.vals.drop _) ++ yieldOf (cfg.vals.take _) = consumed
    rw [← yieldOf_append, List.take_append_drop, h.yield]

/-- the final state sits directly on the start state, under the start symbol: its value is the whole consumed input -/
theorem Inv.final {G : Grammar} {T : Table} {s0 : Nat} (hT : TableSafe G T s0) {cfg : Config} {consumed : List Nat}
    (h : Inv G T cfg consumed) {ss v vs} (hq : cfg.states = T.final :: ss) (hv : cfg.vals = v :: vs) :
    v.1 = Sym.nt s0 ∧ v.2 = consumed ∧ DerivesSeq G [Sym.nt s0] consumed := by
  obtain ⟨hp, hder, hy⟩ := h
  rw [hq, hv] at hp
  rw [hv] at hder hy
  generalize hst : T.final :: ss = st at hp
  cases hp with
  | push q p ss' X y _ hp' ht =>
    injection hst with hst _
    subst hst
    obtain ⟨rfl, rfl⟩ := hT.final_pred p X ht
    cases hp' with
    | base =>
      have hy : y = consumed := by simpa [yieldOf] using hy
      exact ⟨rfl, hy, hy ▸ hder _ (List.mem_cons_self ..)⟩
    | push _ p2 _ X2 _ _ _ ht2 => exact absurd ht2 (hT.start_no_pred p2 X2)

/-- **The error state is a legitimate parser state for the consumed input**: the reductions `feed_token` makes keep the invariant. -/
theorem reductionsOn_inv {G : Grammar} {T : Table} {s0 : Nat} (hT : TableSafe G T s0) (t : Nat) (isEnd : Bool) (fuel : Nat)
    {cfg : Config} {consumed : List Nat} (hinv : Inv G T cfg consumed) : Inv G T (reductionsOn T t isEnd fuel cfg) consumed := by
  fun_induction reductionsOn T t isEnd fuel cfg with
  | case1 | case2 | case3 | case6 => exact hinv
  | case4 f cfg q ss hq r hact cfg' hstep => exact hinv.reduce hT hq hact hstep
  | case5 f cfg q ss hq r hact cfg' hstep _ ih => exact ih (hinv.reduce hT hq hact hstep)

/-- one call of `feed_token` preserves the invariant; acceptance yields a derivation of the whole input -/
theorem reduceLoop_sound {G : Grammar} {T : Table} {s0 : Nat} (hT : TableSafe G T s0) (t : Nat) (isEnd : Bool) :
    ∀ fuel cfg consumed, Inv G T cfg consumed →
      (∀ cfg', reduceLoop T t isEnd fuel cfg = Outcome.shifted cfg' → Inv G T cfg' (consumed ++ [t])) ∧
      (∀ v, reduceLoop T t isEnd fuel cfg = Outcome.accept v →
          v.1 = Sym.nt s0 ∧ v.2 = consumed ∧ DerivesSeq G [Sym.nt s0] consumed) := by
  intro fuel cfg consumed hinv
  have hred := reductionsOn_inv hT t isEnd fuel hinv
  constructor
  · intro cfg' h
    cases reduceLoop_vs_reductionsOn h with
    | shifted q ss q' _ hq hact => exact hred.shift hq hact
  · intro v h
    cases reduceLoop_vs_reductionsOn h with
    | accept ss _ vs _ hq hvals => exact hred.final hT hq hvals

theorem feedAll_inv {G : Grammar} {T : Table} {s0 : Nat} (hT : TableSafe G T s0) {F : Nat} {toks : List Nat} {cfg cfg' : Config}
    {consumed : List Nat} (hinv : Inv G T cfg consumed) (h : feedAll T F cfg toks = Outcome.shifted cfg') :
    Inv G T cfg' (consumed ++ toks) := by
  fun_induction feedAll T F cfg toks generalizing consumed with
  | case1 cfg => cases h; simpa using hinv
  | case2 cfg t ts c1 hres ih => simpa using ih ((reduceLoop_sound hT t false F cfg consumed hinv).1 c1 hres) h
  | case3 cfg t ts hno => exact absurd h (hno cfg')

theorem parseFrom_sound {G : Grammar} {T : Table} {s0 : Nat} (hT : TableSafe G T s0) {eof fuel : Nat} {toks : List Nat} {cfg : Config}
    {consumed : List Nat} {v : Sym × List Nat} (hinv : Inv G T cfg consumed) (h : parseFrom T eof fuel cfg toks = Outcome.accept v) :
    v.1 = Sym.nt s0 ∧ v.2 = consumed ++ toks ∧ DerivesSeq G [Sym.nt s0] (consumed ++ toks) := by
  obtain ⟨cfg', hfeed, hend⟩ := parseFrom_append_accept (pre := toks) (post := []) (by rwa [List.append_nil])
  exact (reduceLoop_sound hT eof true fuel cfg' _ (feedAll_inv hT hinv hfeed)).2 v hend

/-- Soundness of the LALR driver for every table that passes the local certificate:
    whatever the lookahead sets are, an accepted token string is a sentence of the grammar. -/
theorem parse_sound {G : Grammar} {T : Table} {s0 : Nat} (hT : TableSafe G T s0) (eof fuel : Nat)
    (toks : List Nat) (v : Sym × List Nat) (h : parse T eof fuel toks = Outcome.accept v) :
    v.2 = toks ∧ DerivesSeq G [Sym.nt s0] toks :=
  (parseFrom_sound hT Inv.init h).2

end LRProto

