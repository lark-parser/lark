import LarkVerif.LexOrder
/-! C05: the choice among the packed nodes (families) of one symbol node under `ambiguity='resolve'`:
    `SymbolNode.children` is `sorted(self._children, key=attrgetter('sort_key'))` and `ForestToParseTree` takes the first one, with
    `sort_key = (is_empty, -priority, rule.order)`.  Consequences proved here for every list of families: the built-in precedence
    (a directly empty alternative is chosen only when every family is empty) and the priority optimum among the non-empty ones. -/
namespace ChoiceProto

structure Fam where
  isEmpty : Bool
  prio : Int          -- the family's total priority as ForestSumVisitor computed it
  order : Nat         -- rule.order: position of the alternative in the grammar
deriving DecidableEq, Repr

/-- `a.sort_key <= b.sort_key` for the tuple `(is_empty, -priority, rule.order)` (False < True) -/
def keyLe (a b : Fam) : Bool :=
  if a.isEmpty != b.isEmpty then !a.isEmpty
  else if a.prio != b.prio then decide (b.prio < a.prio)
  else decide (a.order ≤ b.order)

/-- `sorted(children, key=sort_key)[0]`: a minimum of the key; among equal keys the earliest in iteration order (`sorted` is stable) -/
def choose : List Fam → Option Fam
  | [] => none
  | f :: l => match choose l with
    | none => some f
    | some c => if keyLe f c then some f else some c

/-- index of the chosen family (what the driver reports) -/
def chooseIdx (l : List Fam) : Option Nat := (choose l).bind fun c => l.findIdx? (· == c)

/-- the key as tiers of `lexBy` (the greater value wins a tier): non-empty, then priority, then the alternative written first -/
theorem keyLe_eq_lexBy :
    keyLe = LexModel.lexBy (fun a => if a.isEmpty then 0 else 1) (LexModel.lexBy Fam.prio fun a b => decide (a.order ≤ b.order)) := by
  funext ⟨ea, pa, oa⟩ ⟨eb, pb, ob⟩
  cases ea <;> cases eb <;> simp [keyLe, LexModel.lexBy]

theorem keyLe_iff (a b : Fam) : keyLe a b = true ↔
    (a.isEmpty = false ∧ b.isEmpty = true) ∨ (a.isEmpty = b.isEmpty ∧ (b.prio < a.prio ∨ (a.prio = b.prio ∧ a.order ≤ b.order))) := by
  rw [keyLe_eq_lexBy, LexModel.lexBy_iff, LexModel.lexBy_iff, decide_eq_true_iff]
  cases a.isEmpty <;> cases b.isEmpty <;> simp

theorem keyLe_total (a b : Fam) : keyLe a b = true ∨ keyLe b a = true := by
  rw [← Bool.or_eq_true, keyLe_eq_lexBy]
  exact LexModel.lexBy_total (LexModel.lexBy_total fun a b => by simp [Nat.le_total]) a b

theorem keyLe_refl (a : Fam) : keyLe a a = true := (keyLe_total a a).elim id id

theorem keyLe_trans (a b c : Fam) : keyLe a b = true → keyLe b c = true → keyLe a c = true := by
  rw [keyLe_eq_lexBy]
  refine LexModel.lexBy_trans (LexModel.lexBy_trans fun x y z h1 h2 => ?_) a b c
  exact decide_eq_true (Nat.le_trans (of_decide_eq_true h1) (of_decide_eq_true h2))

theorem choose_cons (f : Fam) (l : List Fam) :
    choose (f :: l) = some (match choose l with | none => f | some c => if keyLe f c then f else c) := by
  simp only [choose]
  cases choose l with
  | none => rfl
  | some c => simp only; split <;> rfl

theorem choose_eq_none {l : List Fam} (h : choose l = none) : l = [] := by
  cases l with
  | nil => rfl
  | cons f l => rw [choose_cons] at h; cases h

theorem choose_spec {l : List Fam} {c : Fam} (h : choose l = some c) : c ∈ l ∧ ∀ f ∈ l, keyLe c f = true := by
  fun_induction choose l generalizing c with
  | case1 => cases h
  | case2 g l hl ih =>
    cases h; cases choose_eq_none hl
    exact ⟨.head _, fun f hf => List.mem_singleton.mp hf ▸ keyLe_refl _⟩
  | case3 g l c' hl hle ih =>
    cases h
    exact ⟨.head _, fun f hf => (List.mem_cons.mp hf).elim (· ▸ keyLe_refl _) fun hf => keyLe_trans _ _ _ hle ((ih hl).2 f hf)⟩
  | case4 g l c' hl hnle ih =>
    cases h
    exact ⟨.tail _ (ih hl).1, fun f hf => (List.mem_cons.mp hf).elim (· ▸ (keyLe_total c' g).resolve_right hnle) ((ih hl).2 f)⟩

theorem choose_mem : ∀ (l : List Fam) (c : Fam), choose l = some c → c ∈ l :=
  fun _ _ h => (choose_spec h).1

theorem choose_min : ∀ (l : List Fam) (c : Fam), choose l = some c → ∀ f ∈ l, keyLe c f = true :=
  fun _ _ h => (choose_spec h).2

theorem empty_chosen_only_if_all_empty (l : List Fam) (c : Fam) (h : choose l = some c) (hc : c.isEmpty = true) :
    ∀ f ∈ l, f.isEmpty = true := by
  intro f hf
  have := (keyLe_iff c f).mp (choose_min l c h f hf)
  rcases this with ⟨h1, _⟩ | ⟨h1, _⟩
  · rw [hc] at h1; cases h1
  · rw [← h1]; exact hc

theorem chosen_has_max_priority (l : List Fam) (c : Fam) (h : choose l = some c) :
    ∀ f ∈ l, f.isEmpty = false → f.prio ≤ c.prio := by
  intro f hf hfe
  have := (keyLe_iff c f).mp (choose_min l c h f hf)
  rcases this with ⟨_, h2⟩ | ⟨_, h2⟩
  · rw [hfe] at h2; cases h2
  · omega

theorem chosen_is_first_written (l : List Fam) (c : Fam) (h : choose l = some c) :
    ∀ f ∈ l, f.isEmpty = c.isEmpty → f.prio = c.prio → c.order ≤ f.order := by
  intro f hf he hp
  have := (keyLe_iff c f).mp (choose_min l c h f hf)
  rcases this with ⟨h1, h2⟩ | ⟨_, h2⟩
  · rw [he, h1] at h2; cases h2
  · omega

example : choose [⟨true, 5, 0⟩, ⟨false, -3, 1⟩, ⟨false, 2, 2⟩] = some ⟨false, 2, 2⟩ := by decide

end ChoiceProto
