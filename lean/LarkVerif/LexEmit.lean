import LarkVerif.LexTiling
/-! C07: one `next_token` skips a stretch of ignored pieces and then returns one piece, stops where nothing matches, or reaches the end of the text
    (`nextToken_tiles`); any such stretch is the beginning of the run of all pieces `lexAllPieces` (`lexAllPieces_prefix`).  Hence `lexBasic` (the loop
    `BasicLexer.lex` → `next_token`) is exactly the projection of that run onto the non-ignored pieces — so the tiling theorem `lexAllPieces_tiles` is a
    statement about what `lexBasic` returns — and `lexCtx` is the same step with a sub-lexer that changes from token to token (`LexCtxTiling`). -/
namespace LexModel
open LexProto

def Lexer.allowed (L : Lexer) (subset : List Nat) : List Nat :=
  (L.sorted subset).filter (fun t => !L.ignore.contains t)

/-- a stretch of ignored pieces of the sub-lexer over `subset`, from `p` to `q` -/
def Skips (L : Lexer) (F : Facts) (subset : List Nat) (p : Nat) (sk : List Piece') (q : Nat) : Prop :=
  Tiles' p sk q ∧ ∀ x ∈ sk, x.2.2.2 = true ∧ PieceOf L F subset x

section
variable {L : Lexer} {F : Facts} {subset : List Nat} {n : Nat}

theorem Skips.nil (p : Nat) : Skips L F subset p [] p :=
  ⟨Tiles'.nil p, by simp⟩

theorem Skips.cons {ty p len q : Nat} {sk : List Piece'} (hl : 0 < len)
    (hpc : PieceOf L F subset (ty, p, len, true)) (h : Skips L F subset (p + len) sk q) :
    Skips L F subset p ((ty, p, len, true) :: sk) q :=
  ⟨Tiles'.cons _ p len _ _ _ hl h.1, List.forall_mem_cons.mpr ⟨⟨rfl, hpc⟩, h.2⟩⟩

/-- what `next_token` returns at the position `p` where it stops skipping: the piece it finds there, `UnexpectedCharacters`, or the end of the text -/
inductive Found (L : Lexer) (F : Facts) (subset : List Nat) (n : Nat) : Nat → Except LexErr (Option (Piece × Nat)) → Prop
  | tok {p ty len : Nat} : 0 < len → p + len ≤ n → PieceOf L F subset (ty, p, len, false) → Found L F subset n p (.ok (some ((ty, p, len), p + len)))
  | stuck {p : Nat} : p < n → firstMatch F.mt p (L.scanList (L.sorted subset)) = none → Found L F subset n p (.error (.chars p (L.allowed subset)))
  | eof : Found L F subset n n (.ok none)

theorem Found.le {p : Nat} {r : Except LexErr (Option (Piece × Nat))} (h : Found L F subset n p r) : p ≤ n := by
  cases h <;> omega

variable (hpos : ∀ t p len, F.mt t p = some len → 0 < len ∧ p + len ≤ n)
include hpos

theorem nextToken_tiles : ∀ g pos, pos ≤ n → n - pos ≤ g →
    ∃ sk p, Skips L F subset pos sk p ∧ Found L F subset n p (L.nextToken F subset n g pos) := by
  intro g pos h1 hg
  fun_induction Lexer.nextToken L F subset n g pos with
  | case1 pos => exact Nat.le_antisymm h1 (Nat.le_of_not_lt (fuel_zero hg)) ▸ ⟨[], pos, .nil _, .eof⟩
  | case2 fuel pos hlt _ hfm => exact ⟨[], pos, .nil _, .stuck hlt hfm⟩
  | case3 fuel pos hlt _ t len hfm ty hig ih =>
    obtain ⟨hl0, hle, hmax⟩ := firstMatch_bounds hpos hfm
    rw [hmax] at ih ⊢
    obtain ⟨sk, p, hsk, hp⟩ := ih hle (fuel_step hl0 hg)
    exact ⟨_, p, .cons hl0 (hig ▸ PieceOf.of_firstMatch hfm) hsk, hp⟩
  | case4 fuel pos hlt _ t len hfm ty hig =>
    obtain ⟨hl0, hle, hmax⟩ := firstMatch_bounds hpos hfm
    rw [hmax]
    exact ⟨[], pos, .nil _, .tok hl0 hle ((Bool.not_eq_true _).mp hig ▸ PieceOf.of_firstMatch hfm)⟩
  | case5 fuel pos hlt => exact Nat.le_antisymm h1 (Nat.le_of_not_lt hlt) ▸ ⟨[], pos, .nil _, .eof⟩

end

/-- **The basic lexer's output is the run of all pieces with the ignored ones dropped**, and it ends in `UnexpectedCharacters` exactly when that run
    stops at a position where nothing matches (same position, same `allowed` set). -/
theorem lexBasic_eq_emitted (L : Lexer) (F : Facts) (all : List Nat) (n : Nat)
    (hpos : ∀ t p len, F.mt t p = some len → 0 < len ∧ p + len ≤ n) :
    ∀ f1 pos f2, pos ≤ n → n - pos ≤ f1 → n - pos ≤ f2 →
      L.lexBasic F all n f1 pos =
        (emitted (L.lexAllPieces F all n f2 pos).1,
         if (L.lexAllPieces F all n f2 pos).2.2 then some (.chars (L.lexAllPieces F all n f2 pos).2.1 (L.allowed all)) else none) := by
  intro f1
  induction f1 with
  | zero => intro pos f2 _ h2 _; rw [lexAllPieces_end (fuel_zero h2)]; rfl
  | succ f1 ih =>
    intro pos f2 h1 h2 h3
    obtain ⟨sk, p, hsk, hp⟩ := nextToken_tiles (L := L) (subset := all) hpos (n + 1) pos h1 (Nat.le_succ_of_le (Nat.sub_le ..))
    have hpp := hsk.1.le
    have h3' := fuel_mono hpp h3
    -- the stretch `next_token` skipped is the beginning of the run, and none of it is emitted
    rw [lexAllPieces_prefix hpos hsk.1 (fun x hx => (hsk.2 x hx).2) hp.le h3 h3', emitted_append, emitted_ignored fun x hx => (hsk.2 x hx).1,
      List.nil_append]
    rw [Lexer.lexBasic]
    generalize L.nextToken F all n (n + 1) pos = r at hp
    cases hp with
    | @tok _ ty len hl hle hpc =>
      have hlen : p ≤ p + len := Nat.le_add_right ..
      rw [lexAllPieces_prefix hpos (.cons _ p len _ _ _ hl (.nil _)) (List.forall_mem_singleton.mpr hpc) hle h3' (fuel_mono hlen h3')]
      dsimp only
      rw [ih _ f2 hle (fuel_step hl (fuel_mono hpp h2)) (fuel_mono hlen h3')]
      rfl
    | stuck hlt hnone => rw [lexAllPieces_stuck hlt hnone h3']; rfl
    | eof => rw [lexAllPieces_end (Nat.lt_irrefl n)]; rfl

end LexModel
