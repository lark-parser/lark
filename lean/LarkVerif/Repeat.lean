import LarkVerif.Basic
namespace Proto

/-! Count-set semantics of the helper rules `EBNF_to_BNF._generate_repeats` creates (load_grammar.py:329).
    A rule built only from `atom` denotes the set of numbers of atoms it can match. -/

abbrev CSet := Nat → Prop

def single (n : Nat) : CSet := fun k => k = n
def upto (h : Nat) : CSet := fun k => k ≤ h

def pow (S : CSet) : Nat → CSet
  | 0 => single 0
  | i+1 => fun k => ∃ x y, S x ∧ pow S i y ∧ k = x + y

/-- load_grammar.py:272 `_add_repeat_rule`: `target * a  atom * b` -/
def repeatRule (a b : Nat) (target atom : CSet) : CSet :=
  fun k => ∃ x y, pow target a x ∧ pow atom b y ∧ k = x + y

/-- load_grammar.py:292 `_add_repeat_opt_rule`:
    `target*i target_opt` for i < a, and `target*a atom*i` for i < b -/
def repeatOptRule (a b : Nat) (target opt atom : CSet) : CSet :=
  fun k => (∃ i, i < a ∧ ∃ x y, pow target i x ∧ opt y ∧ k = x + y) ∨
           (∃ i, i < b ∧ ∃ x y, pow target a x ∧ pow atom i y ∧ k = x + y)

/-- `pow`, `repeatRule`, `repeatOptRule`, `generateRepeats` and `RTree.counts` spell this existential out and unfold to it by `rfl` -/
def seq (A B : CSet) : CSet := fun k => ∃ x y, A x ∧ B y ∧ k = x + y

theorem CSet.ext {A B : CSet} (h : ∀ k, A k ↔ B k) : A = B := funext fun k => propext (h k)

theorem seq_single_left (m : Nat) (B : CSet) (k : Nat) : seq (single m) B k ↔ ∃ y, B y ∧ k = m + y :=
  ⟨fun ⟨_, y, hx, hy, hk⟩ => ⟨y, hy, hx ▸ hk⟩, fun ⟨y, hy, hk⟩ => ⟨m, y, rfl, hy, hk⟩⟩

theorem seq_single (m n : Nat) : seq (single m) (single n) = single (m + n) :=
  CSet.ext fun k => (seq_single_left m _ k).trans ⟨fun ⟨_, hy, hk⟩ => hy ▸ hk, fun hk => ⟨n, rfl, hk⟩⟩

theorem seq_single_upto (m h k : Nat) : seq (single m) (upto h) k ↔ m ≤ k ∧ k ≤ m + h :=
  (seq_single_left m _ k).trans
    ⟨fun ⟨y, hy, hk⟩ => hk ▸ ⟨Nat.le_add_right m y, Nat.add_le_add_left hy m⟩,
     fun ⟨h1, h2⟩ => ⟨k - m, Nat.sub_le_iff_le_add'.mpr h2, (Nat.add_sub_cancel' h1).symm⟩⟩

theorem pow_single (n i : Nat) : pow (single n) i = single (i * n) := by
  induction i with
  | zero => rw [Nat.zero_mul]; rfl
  | succ i ih =>
    show seq (single n) (pow (single n) i) = _
    rw [ih, seq_single, Nat.succ_mul, Nat.add_comm]

theorem repeatRule_single (a b n : Nat) : repeatRule a b (single n) (single 1) = single (a * n + b) := by
  show seq (pow (single n) a) (pow (single 1) b) = _
  rw [pow_single, pow_single, seq_single, Nat.mul_one]

/-- Euclidean division: `k` lies in block `k / n`. -/
theorem mem_blocks_iff {n : Nat} (hn : 0 < n) (a k : Nat) : (∃ i, i < a ∧ i * n ≤ k ∧ k ≤ i * n + (n - 1)) ↔ k < a * n := by
  simp only [← Nat.add_sub_assoc hn, ← Nat.div_eq_iff hn, ← Nat.div_lt_iff_lt_mul hn]
  exact ⟨fun ⟨_, hi, hk⟩ => hk ▸ hi, fun h => ⟨_, h, rfl⟩⟩

theorem lt_or_mem_tail_iff (m b k : Nat) : (k < m ∨ ∃ i, i < b ∧ k = m + i) ↔ k < m + b :=
  ⟨fun h => h.elim (Nat.lt_add_right b) fun ⟨_, hi, hk⟩ => hk ▸ Nat.add_lt_add_left hi m,
   fun h => (Nat.lt_or_ge k m).imp_right fun h1 => ⟨k - m, (Nat.sub_lt_iff_lt_add' h1).mpr h, (Nat.add_sub_cancel' h1).symm⟩⟩

/-- the optional helper covers exactly `0 .. a*n+b-1` when its inner helper covers `0 .. n-1` -/
theorem repeatOptRule_upto (a b n : Nat) (hn : 1 ≤ n) (ha : 1 ≤ a) :
    ∀ k, repeatOptRule a b (single n) (upto (n-1)) (single 1) k ↔ k ≤ a * n + b - 1 := by
  intro k
  show (∃ i, i < a ∧ seq (pow (single n) i) (upto (n-1)) k) ∨ (∃ i, i < b ∧ seq (pow (single n) a) (pow (single 1) i) k) ↔ _
  simp only [pow_single, seq_single_upto, seq_single, Nat.mul_one, single, mem_blocks_iff hn, lt_or_mem_tail_iff]
  exact (Nat.le_sub_one_iff_lt (Nat.add_pos_left (Nat.mul_pos ha hn) b)).symm

/-- folding `_add_repeat_rule` over the factor list (load_grammar.py:342-343) -/
def foldRepeat (fs : List (Nat × Nat)) (start : CSet) : CSet :=
  fs.foldl (fun t ab => repeatRule ab.1 ab.2 t (single 1)) start

theorem foldRepeat_single (fs : List (Nat × Nat)) (n : Nat) :
    foldRepeat fs (single n) = single (fs.foldl (fun c ab => c * ab.1 + ab.2) n) :=
  List.foldl_hom single fun c ab => by rw [repeatRule_single, Nat.mul_comm]

/-- the loop of load_grammar.py:349-356: returns the count set of the final optional helper -/
def foldOpt : List (Nat × Nat) → (n : Nat) → (opt : CSet) → CSet
  | [], _, opt => opt
  | (a, b) :: fs, n, opt => foldOpt fs (a * n + b) (repeatOptRule a b (single n) opt (single 1))

theorem foldOpt_upto : ∀ (fs : List (Nat × Nat)) (n : Nat), 1 ≤ n → (∀ ab ∈ fs, 1 ≤ ab.1) →
    ∀ k, foldOpt fs n (upto (n-1)) k ↔ k ≤ fs.foldl (fun c ab => c * ab.1 + ab.2) n - 1 := by
  intro fs
  induction fs with
  | nil => intro _ _ _ _; exact Iff.rfl
  | cons ab fs ih =>
    intro n hn hall k
    obtain ⟨a, b⟩ := ab
    obtain ⟨ha, hfs⟩ := List.forall_mem_cons.mp hall
    have hn' : 1 ≤ a * n + b := Nat.le_add_right_of_le (Nat.mul_pos ha hn)
    show foldOpt fs (a * n + b) (repeatOptRule a b (single n) (upto (n-1)) (single 1)) k ↔ _
    rw [CSet.ext (repeatOptRule_upto a b n hn ha), List.foldl_cons, Nat.mul_comm n a]
    exact ih (a * n + b) hn' hfs k

theorem foldRepeat_smallFactors {mf : Nat} (hmf : 2 < mf) (n : Nat) : foldRepeat (smallFactors n mf) (single 1) = single n :=
  (foldRepeat_single _ 1).trans (congrArg single (smallFactors_correct mf hmf n))

theorem foldOpt_smallFactors {mf : Nat} (hmf : 2 < mf) {n : Nat} (hn : 1 ≤ n) : foldOpt (smallFactors n mf) 1 (single 0) = upto (n - 1) :=
  CSet.ext fun k => by
    rw [show single 0 = upto (1 - 1) from CSet.ext fun z => (Nat.le_zero (i := z)).symm,
      foldOpt_upto _ 1 (Nat.le_refl 1) (smallFactors_pos mf hmf n hn) k,
      show List.foldl _ 1 _ = n from smallFactors_correct mf hmf n]
    rfl

/-- load_grammar.py:329 `_generate_repeats`, as the set of repetition counts the generated rule matches -/
def generateRepeats (breakThr facThr mn mx : Nat) : CSet :=
  if mx < breakThr then fun k => ∃ n, mn ≤ n ∧ n ≤ mx ∧ pow (single 1) n k
  else
    let mnT := foldRepeat (smallFactors mn facThr) (single 1)
    if mx = mn then mnT
    else
      let opt := foldOpt (smallFactors (mx - mn + 1) facThr) 1 (single 0)
      fun k => ∃ x y, mnT x ∧ opt y ∧ k = x + y

/-- C09, rule side: for all bounds `mn ≤ mx` and all thresholds with `2 < facThr`,
    `x ~ mn..mx` matches exactly `mn` to `mx` occurrences of `x`. -/
theorem generateRepeats_counts (breakThr facThr : Nat) (hf : 2 < facThr) (mn mx : Nat) (hle : mn ≤ mx) (k : Nat) :
    generateRepeats breakThr facThr mn mx k ↔ mn ≤ k ∧ k ≤ mx := by
  fun_cases generateRepeats breakThr facThr mn mx
  · simp only [pow_single, Nat.mul_one, single]
    exact ⟨fun ⟨n, h1, h2, hk⟩ => hk ▸ ⟨h1, h2⟩, fun ⟨h1, h2⟩ => ⟨k, h1, h2, rfl⟩⟩
  · show foldRepeat _ _ k ↔ _
    rw [foldRepeat_smallFactors hf, ‹mx = mn›]; exact Nat.le_antisymm_iff.trans And.comm
  · show seq (foldRepeat _ _) (foldOpt _ _ _) k ↔ _
    rw [foldRepeat_smallFactors hf, foldOpt_smallFactors hf (Nat.le_add_left ..), Nat.add_sub_cancel, seq_single_upto, Nat.add_sub_cancel' hle]

/-- The structure `_generate_repeats` returns, helper rules unfolded (what the driver prints and the harness rebuilds from lark's `new_rules`).
    `rep`/`repOpt` are the bodies of the rules made by `_add_repeat_rule` / `_add_repeat_opt_rule`. -/
inductive RTree
  | atom
  | empty                                     -- `ST('expansion', [])`
  | rep (a b : Nat) (target : RTree)          -- target*a atom*b
  | repOpt (a b : Nat) (target opt : RTree)   -- target*i opt (i<a) | target*a atom*i (i<b)
  | naive (mn mx : Nat)                       -- atom*n for n in mn..mx
  | cat (l r : RTree)
deriving Repr, DecidableEq

def RTree.counts : RTree → CSet
  | .atom => single 1
  | .empty => single 0
  | .rep a b t => repeatRule a b t.counts (single 1)
  | .repOpt a b t o => repeatOptRule a b t.counts o.counts (single 1)
  | .naive mn mx => fun k => ∃ n, mn ≤ n ∧ n ≤ mx ∧ pow (single 1) n k
  | .cat l r => fun k => ∃ x y, l.counts x ∧ r.counts y ∧ k = x + y

def foldRepeatT (fs : List (Nat × Nat)) (start : RTree) : RTree :=
  fs.foldl (fun t ab => .rep ab.1 ab.2 t) start

def foldOptT : List (Nat × Nat) → RTree → RTree → RTree
  | [], _, opt => opt
  | (a, b) :: fs, tgt, opt => foldOptT fs (.rep a b tgt) (.repOpt a b tgt opt)

/-- load_grammar.py:329 `_generate_repeats`, executable, as a tree -/
def genTree (breakThr facThr mn mx : Nat) : RTree :=
  if mx < breakThr then .naive mn mx
  else
    let mnT := foldRepeatT (smallFactors mn facThr) .atom
    if mx = mn then mnT
    else .cat mnT (foldOptT (smallFactors (mx - mn + 1) facThr) .atom .empty)

theorem foldRepeatT_counts (fs : List (Nat × Nat)) (t : RTree) : (foldRepeatT fs t).counts = foldRepeat fs t.counts :=
  (List.foldl_hom RTree.counts fun _ _ => rfl).symm

theorem foldOptT_counts (fs : List (Nat × Nat)) (tgt opt : RTree) (n : Nat) (ht : tgt.counts = single n) :
    (foldOptT fs tgt opt).counts = foldOpt fs n opt.counts := by
  fun_induction foldOptT fs tgt opt generalizing n with
  | case1 => rfl
  | case2 a b fs tgt opt ih => rw [ih (a * n + b) (by rw [RTree.counts, ht, repeatRule_single]), foldOpt, RTree.counts, ht]

theorem genTree_counts_eq (breakThr facThr mn mx : Nat) :
    (genTree breakThr facThr mn mx).counts = generateRepeats breakThr facThr mn mx := by
  simp only [genTree, generateRepeats, apply_ite RTree.counts, RTree.counts, foldRepeatT_counts, foldOptT_counts _ .atom .empty 1 rfl]

/-- C09 for the executable tree: the helper-rule structure lark builds for `x ~ mn..mx` matches exactly
    `mn` to `mx` occurrences — for all bounds and all thresholds with `2 < facThr`. -/
theorem genTree_counts (breakThr facThr : Nat) (hf : 2 < facThr) (mn mx : Nat) (hle : mn ≤ mx) (k : Nat) :
    (genTree breakThr facThr mn mx).counts k ↔ mn ≤ k ∧ k ≤ mx := by
  rw [genTree_counts_eq]; exact generateRepeats_counts breakThr facThr hf mn mx hle k

/-- `?`, `*`, `+` are expanded by load_grammar.py:360 `expr`.  `_add_recurse_rule`:  `_c : c | _c c` — least fixed point as an inductive set of counts -/
inductive PlusCount : Nat → Prop
  | base : PlusCount 1
  | step {k} : PlusCount k → PlusCount (k + 1)

/-- `PlusCount` has the constructors of `Nat.le 1` -/
theorem plusCount_iff (k : Nat) : PlusCount k ↔ 1 ≤ k :=
  ⟨fun h => by induction h with | base => exact .refl | step _ ih => exact .step ih,
   fun h => by induction h with | refl => exact .base | step _ ih => exact .step ih⟩

/-- `x*` is `[_c, <empty>]` -/
def starCount : CSet := fun k => PlusCount k ∨ k = 0
/-- `x?` is `[x, <empty>]` -/
def optCount : CSet := fun k => k = 1 ∨ k = 0

theorem starCount_all (k : Nat) : starCount k :=
  k.eq_zero_or_pos.elim Or.inr fun h => Or.inl ((plusCount_iff k).mpr h)

theorem optCount_iff (k : Nat) : optCount k ↔ k ≤ 1 := Or.comm.trans Nat.le_one_iff_eq_zero_or_eq_one.symm

end Proto
