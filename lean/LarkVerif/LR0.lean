import LarkVerif.Earley
import LarkVerif.Saturate
/-! # LR(0) item sets (`lark/parsers/lalr_analysis.py:166 LALR_Analyzer.compute_lr0_states`, `grammar_analysis.py expand_rule`)

A state of lark's automaton is the closure of its kernel: the kernel items plus, for every item with the dot in front of a nonterminal `B`, every
rule of `B` with the dot at 0 — transitively.  The code computes it with a work-list BFS (`expand_rule`) per kernel; the model is the generic
`saturate` fixpoint, and `mem_closure_iff` says it is *exactly* the inductively defined closure, for every grammar and kernel.
`goto` advances the dot over one symbol and closes again.  The checker `checkLR0` evaluates, on the item sets and transitions exported from lark's
own analyzer, that every state is the closure of its kernel and every transition leads to the closure of the advanced items (and that no expected
symbol lacks a transition); `checkLR0_sound` turns a `true` into the corresponding statement about `Closure`.  -/
namespace LR0
open EarleyProto Sat

abbrev It := Rule × Nat

def itemUniv (G : Grammar) : List It := G.rules.flatMap fun r => (List.range (r.rhs.length + 1)).map fun d => (r, d)

theorem mem_itemUniv {G : Grammar} {r : Rule} (h : r ∈ G.rules) : (r, 0) ∈ itemUniv G := by
  simp only [itemUniv, List.mem_flatMap, List.mem_map, List.mem_range]
  exact ⟨r, h, 0, by omega, rfl⟩

/-- one round of prediction -/
def closeStep (G : Grammar) (S : List It) : List It :=
  S.flatMap fun it =>
    match it.1.rhs[it.2]? with
    | some (Sym.nt B) => (G.rules.filter (fun r' => r'.lhs = B)).map (fun r' => (r', 0))
    | _ => []

/-- `State.closure` of a kernel -/
def closure (G : Grammar) (K : List It) : List It := saturate (itemUniv G) (closeStep G) K

inductive Closure (G : Grammar) (K : List It) : It → Prop
  | kernel (it : It) : it ∈ K → Closure G K it
  | pred (r : Rule) (d B : Nat) (r' : Rule) : Closure G K (r, d) → r.rhs[d]? = some (Sym.nt B) → r' ∈ G.rules → r'.lhs = B → Closure G K (r', 0)

theorem mem_closeStep {G : Grammar} {S : List It} {x : It} :
    x ∈ closeStep G S ↔ ∃ r d r', (r, d) ∈ S ∧ r.rhs[d]? = some (Sym.nt r'.lhs) ∧ r' ∈ G.rules ∧ x = (r', 0) := by
  simp only [closeStep, List.mem_flatMap]
  constructor
  · rintro ⟨⟨r, d⟩, hin, hx⟩
    split at hx
    · rename_i B hs
      simp only [List.mem_map, List.mem_filter, decide_eq_true_eq] at hx
      obtain ⟨r', ⟨hr', rfl⟩, rfl⟩ := hx
      exact ⟨r, d, r', hin, hs, hr', rfl⟩
    · cases hx
  · rintro ⟨r, d, r', hin, hs, hr', rfl⟩
    refine ⟨(r, d), hin, ?_⟩
    simp only [hs, List.mem_map, List.mem_filter, decide_eq_true_eq]
    exact ⟨r', ⟨hr', rfl⟩, rfl⟩

/-- **The executable closure is exactly the LR(0) closure of the kernel**, for every grammar and kernel. -/
theorem mem_closure_iff (G : Grammar) (K : List It) (x : It) : x ∈ closure G K ↔ Closure G K x := by
  constructor
  · intro h
    refine saturate_least (itemUniv G) (closeStep G) (Closure G K) ?_ K (fun y hy => Closure.kernel y hy) x h
    intro t ht y hy
    obtain ⟨r, d, r', hin, hs, hr', rfl⟩ := mem_closeStep.mp hy
    exact Closure.pred r d _ r' (ht _ hin) hs hr' rfl
  · intro h
    induction h with
    | kernel it hit => exact saturate_superset _ _ _ it hit
    | pred r d B r' _ hs hr' hl ih =>
      subst hl
      exact saturate_closed (itemUniv G) (closeStep G) K (r', 0) (mem_closeStep.mpr ⟨r, d, r', ih, hs, hr', rfl⟩) (mem_itemUniv hr')

/-- the items of `S` advanced over `X` (the kernel of the successor state) -/
def gotoKernel (S : List It) (X : Sym) : List It :=
  S.filterMap fun it => if it.1.rhs[it.2]? = some X then some (it.1, it.2 + 1) else none

def goto (G : Grammar) (S : List It) (X : Sym) : List It := closure G (gotoKernel S X)

theorem mem_gotoKernel {S : List It} {X : Sym} {x : It} : x ∈ gotoKernel S X ↔ ∃ d, (x.1, d) ∈ S ∧ x.1.rhs[d]? = some X ∧ x.2 = d + 1 := by
  simp only [gotoKernel, List.mem_filterMap, Option.ite_none_right_eq_some, Option.some.injEq, Prod.exists]
  constructor
  · rintro ⟨r, d, hin, hs, rfl⟩; exact ⟨d, hin, hs, rfl⟩
  · rintro ⟨d, hin, hs, hd⟩; exact ⟨x.1, d, hin, hs, hd ▸ rfl⟩

def sameSet (a b : List It) : Bool := a.all (fun x => b.contains x) && b.all (fun x => a.contains x)

theorem sameSet_spec {a b : List It} (h : sameSet a b = true) : ∀ x, x ∈ a ↔ x ∈ b := by
  simp only [sameSet, Bool.and_eq_true, List.all_eq_true, List.contains_iff_mem] at h
  intro x; exact ⟨h.1 x, h.2 x⟩

/-- the symbols some item of the state has its dot in front of -/
def expected (S : List It) : List Sym := S.filterMap fun it => it.1.rhs[it.2]?

structure Auto where
  items : List (List It)                 -- state number ↦ item set (lark: `State.closure`)
  kernels : List (List It)               -- state number ↦ kernel (lark: `State.kernel`)
  trans : List (Nat × Sym × Nat)         -- `State.transitions`

def Auto.itemsOf (A : Auto) (q : Nat) : List It := A.items.getD q []
def Auto.kernelOf (A : Auto) (q : Nat) : List It := A.kernels.getD q []

def checkLR0 (G : Grammar) (A : Auto) : Bool :=
  (List.range A.items.length).all (fun q => sameSet (A.itemsOf q) (closure G (A.kernelOf q))) &&
  A.trans.all (fun t => sameSet (A.kernelOf t.2.2) (gotoKernel (A.itemsOf t.1) t.2.1) && decide (t.2.2 < A.items.length)) &&
  (List.range A.items.length).all (fun q => (expected (A.itemsOf q)).all fun X => A.trans.any fun t => t.1 == q && t.2.1 == X)

/-- what a passed check means: every state is the LR(0) closure of its kernel; every transition leads to the state whose kernel is the advanced items;
    every symbol an item expects has a transition -/
theorem checkLR0_sound (G : Grammar) (A : Auto) (h : checkLR0 G A = true) :
    (∀ q, q < A.items.length → ∀ x, x ∈ A.itemsOf q ↔ Closure G (A.kernelOf q) x) ∧
    (∀ p X q, (p, X, q) ∈ A.trans → q < A.items.length ∧ ∀ x, x ∈ A.kernelOf q ↔ ∃ d, (x.1, d) ∈ A.itemsOf p ∧ x.1.rhs[d]? = some X ∧ x.2 = d + 1) ∧
    (∀ q, q < A.items.length → ∀ r d X, (r, d) ∈ A.itemsOf q → r.rhs[d]? = some X → ∃ q', (q, X, q') ∈ A.trans) := by
  simp only [checkLR0, Bool.and_eq_true, List.all_eq_true, List.mem_range, decide_eq_true_eq] at h
  obtain ⟨⟨h1, h2⟩, h3⟩ := h
  refine ⟨?_, ?_, ?_⟩
  · intro q hq x
    rw [sameSet_spec (h1 q hq) x, mem_closure_iff]
  · intro p X q hin
    have := h2 (p, X, q) hin
    refine ⟨this.2, fun x => ?_⟩
    rw [sameSet_spec this.1 x, mem_gotoKernel]
  · intro q hq r d X hin hs
    have := h3 q hq X (List.mem_filterMap.mpr ⟨(r, d), hin, hs⟩)
    simp only [List.any_eq_true, Bool.and_eq_true, beq_iff_eq] at this
    obtain ⟨⟨_, _, q'⟩, hin', rfl, rfl⟩ := this
    exact ⟨q', hin'⟩

/-- non-vacuity: `S → S a | b` — the closure of the root kernel holds both rules of `S` -/
def exG : Grammar := ⟨[⟨0, [Sym.nt 0, Sym.t 0]⟩, ⟨0, [Sym.t 1]⟩, ⟨1, [Sym.nt 0]⟩]⟩
example : closure exG [(⟨1, [Sym.nt 0]⟩, 0)] = [(⟨1, [Sym.nt 0]⟩, 0), (⟨0, [Sym.nt 0, Sym.t 0]⟩, 0), (⟨0, [Sym.t 1]⟩, 0)] := by
  -- two rounds: the kernel's item predicts both rules of `S`, and they predict nothing new
  rw [closure, saturate_eq, saturate_eq]
  decide

end LR0
