import LarkVerif.LRError
import LarkVerif.LR0Viable
/-! # The LALR driver has the correct-prefix property (C08: "every terminal in `accepts` can legally come next"; errors at the first offending token)

`LR0Viable` speaks about paths of the LR(0) automaton; here the driver model of `LR.lean` is linked to it: the state stack of every configuration
the driver reaches is such a path, spelled by the symbols of its value stack (`StackPath.reach`).  Hence, for a table whose transitions are those
of an automaton passing `checkLR0` over a productive grammar, **whatever the driver has consumed is a prefix of a sentence**
(`consumed_is_viable_prefix`) — in particular after the shift that ends a successful `feed_token`: a token the driver accepts (what `accepts()`
finds by trial feeding) can legally come next (`fed_token_is_legal`).  The lookahead sets play no role: the statement holds for every choice of
reduce actions that passes `TableSafe`. -/
namespace LRProto
open EarleyProto LR0

/-- the table's shift and goto entries are transitions of the automaton -/
def TableOf (T : Table) (A : Auto) : Prop := ∀ p X q, T.trans p X q → (p, X, q) ∈ A.trans

/-- the setting of this file (the hypotheses the C08 LALR results share) -/
structure OnChecked (G : Grammar) (T : Table) (A : Auto) (start : Nat) : Prop where
  lr0 : checkLR0 G A = true
  productive : Productive G
  start_lt : T.start < A.items.length
  start_kernel : ∀ x ∈ A.kernelOf T.start, x.2 = 0 ∧ x.1.lhs = start ∧ x.1 ∈ G.rules
  kernel_ne : ∀ q, q < A.items.length → A.kernelOf q ≠ []
  trans : TableOf T A

theorem StackPath.reach {T : Table} {A : Auto} (hTA : TableOf T A) {ss vs} (h : StackPath T ss vs) :
    ∃ q rest, ss = q :: rest ∧ Reach A T.start (vs.map (·.1)).reverse q := by
  induction h with
  | base => exact ⟨T.start, [], rfl, by simpa using Reach.nil⟩
  | push q p ss X y vs _ ht ih =>
    obtain ⟨_, _, ⟨⟩, hr⟩ := ih
    exact ⟨q, p :: ss, rfl, by simpa using Reach.step _ p X q hr (hTA p X q ht)⟩

/-- **Correct-prefix property of the driver.** -/
theorem consumed_is_viable_prefix {G : Grammar} {T : Table} {A : Auto} {start : Nat} (hA : OnChecked G T A start)
    {cfg : Config} {consumed : List Nat} (hinv : Inv G T cfg consumed) :
    ∃ w, DerivesSeq G [Sym.nt start] (consumed ++ w) := by
  obtain ⟨h, hP, h0, hstart, hne, hTA⟩ := hA
  obtain ⟨q, rest, _, hr⟩ := hinv.path.reach hTA
  have hq := hr.lt h h0
  obtain ⟨⟨r, d⟩, hy⟩ := List.exists_mem_of_ne_nil _ (hne q hq)
  have hv := item_valid h hP h0 hstart hr (r, d) (((checkLR0_sound G A h).1 q hq _).mpr (Closure.kernel _ hy))
  have hu := derives_yieldOf (G := G) cfg.vals hinv.derives
  rw [hinv.yield] at hu
  obtain ⟨w, hw⟩ := hv.completes hP (β := []) rfl hu DerivesSeq.nil
  exact ⟨w, by rwa [List.append_nil] at hw⟩

/-- **A token the driver accepts can legally come next**: if `feed_token` (any reductions, then the shift) succeeds on `t`, some sentence
    begins with the consumed input followed by `t`. -/
theorem fed_token_is_legal {G : Grammar} {T : Table} {A : Auto} {s0 start : Nat} (hT : TableSafe G T s0) (hA : OnChecked G T A start)
    {cfg cfg' : Config} {consumed : List Nat} (hinv : Inv G T cfg consumed) {t fuel : Nat}
    (hfeed : reduceLoop T t false fuel cfg = Outcome.shifted cfg') :
    ∃ w, DerivesSeq G [Sym.nt start] (consumed ++ t :: w) := by
  have hinv' := (reduceLoop_sound hT t false fuel cfg consumed hinv).1 cfg' hfeed
  obtain ⟨w, hw⟩ := consumed_is_viable_prefix hA hinv'
  exact ⟨w, by simpa [List.append_assoc] using hw⟩

/-- feeding by `foldlM` (how `fed_prefix_is_viable` spells it) is `feedAll` -/
theorem feedAll_of_foldlM {T : Table} {F : Nat} {toks : List Nat} {cfg cfg' : Config}
    (h : (toks.foldlM (fun c t => match reduceLoop T t false F c with | Outcome.shifted c' => some c' | _ => none) cfg) = some cfg') :
    feedAll T F cfg toks = Outcome.shifted cfg' := by
  induction toks generalizing cfg with
  | nil => cases h; rfl
  | cons t ts ih =>
    simp only [List.foldlM_cons, Option.bind_eq_bind] at h
    rw [feedAll]
    split at h
    · rename_i c1 hres; rw [hres]; exact ih h
    · cases h

/-- a token list fed without error extends the consumed input to a viable prefix -/
theorem fed_prefix_is_viable {G : Grammar} {T : Table} {A : Auto} {s0 start : Nat} (hT : TableSafe G T s0) (h : checkLR0 G A = true)
    (hP : Productive G) (h0 : T.start < A.items.length) (hstart : ∀ x ∈ A.kernelOf T.start, x.2 = 0 ∧ x.1.lhs = start ∧ x.1 ∈ G.rules)
    (hne : ∀ q, q < A.items.length → A.kernelOf q ≠ []) (hTA : TableOf T A) (fuel : Nat) :
    ∀ (toks : List Nat) (cfg : Config) (consumed : List Nat), Inv G T cfg consumed →
      ∀ cfg', (toks.foldlM (fun c t => match reduceLoop T t false fuel c with | Outcome.shifted c' => some c' | _ => none) cfg) = some cfg' →
      ∃ w, DerivesSeq G [Sym.nt start] (consumed ++ toks ++ w) :=
  fun _ _ _ hinv _ hf => consumed_is_viable_prefix ⟨h, hP, h0, hstart, hne, hTA⟩ (feedAll_inv hT hinv (feedAll_of_foldlM hf))

/-- **`UnexpectedToken` is raised no later than at the first offending token**: a token prefix the driver consumes without raising begins a sentence. -/
theorem consumed_prefix_begins_sentence {G : Grammar} {T : Table} {A : Auto} {s0 start : Nat} (hT : TableSafe G T s0) (hA : OnChecked G T A start)
    {F : Nat} {pre : List Nat} {cfg' : Config} (hfeed : feedAll T F ⟨[T.start], []⟩ pre = Outcome.shifted cfg') :
    ∃ w, DerivesSeq G [Sym.nt start] (pre ++ w) :=
  consumed_is_viable_prefix hA (feedAll_inv hT Inv.init hfeed)

/-- **Everything `accepts()` returns can legally come next**: a terminal other than `$END` begins a continuation of the consumed input to a
    sentence; `$END` is in it only if the consumed input *is* a sentence. -/
theorem accepts_are_legal {G : Grammar} {T : Table} {A : Auto} {s0 start : Nat} (hT : TableSafe G T s0) (hA : OnChecked G T A start)
    {cfg : Config} {consumed : List Nat} (hinv : Inv G T cfg consumed) {terms : List Nat} {eof fuel t : Nat}
    (ht : t ∈ acceptsOf T terms eof fuel cfg) :
    (t ≠ eof → ∃ w, DerivesSeq G [Sym.nt start] (consumed ++ t :: w)) ∧ (t = eof → DerivesSeq G [Sym.nt s0] consumed) := by
  rcases feedOK_iff.mp (List.mem_filter.mp ht).2 with ⟨cfg', hres⟩ | ⟨v, hres⟩
  · have hend := reduceLoop_shifted_not_end hres
    rw [hend] at hres
    exact ⟨fun _ => fed_token_is_legal hT hA hinv hres, fun heq => absurd heq (by simpa using hend)⟩
  · have heq : t = eof := by simpa using reduceLoop_accept_end hres
    exact ⟨fun hne => absurd heq hne, fun _ => ((reduceLoop_sound hT t _ fuel cfg consumed hinv).2 v hres).2.2⟩

end LRProto
