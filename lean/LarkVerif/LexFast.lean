import LarkVerif.LexTiling
/-! Compiler-only speed-ups for the executable lexer model (`@[csimp]`: the compiler replaces the model functions by the hoisted versions below; each
    replacement is justified by a kernel-checked equation, the model functions and every theorem about them are untouched).
    The model recomputes the sorted scan list at every position; here it is computed once per run. -/
namespace LexModel
open LexProto

/-- membership test instead of rebuilding `unlessOf` for every pair -/
def Lexer.embeddedFast (L : Lexer) (sorted : List Nat) : List Nat :=
  sorted.filter fun s => sorted.any fun re =>
    (!(L.info re).isStr && ((L.info s).isStr && decide ((L.info s).prio = (L.info re).prio) && L.selfMatch.contains (re, s))) && L.flagSub.contains (s, re)

theorem embedded_eq_fast (L : Lexer) (sorted : List Nat) : L.embedded sorted = L.embeddedFast sorted := by
  unfold Lexer.embedded Lexer.embeddedFast
  apply List.filter_congr
  intro s hs
  congr 1
  funext re
  congr 1
  unfold Lexer.unlessOf
  cases hre : (L.info re).isStr with
  | true => simp
  | false =>
    rw [if_neg Bool.false_ne_true, Bool.not_false, Bool.true_and, Bool.eq_iff_iff, List.contains_iff_mem, List.mem_filter]
    exact and_iff_right hs

def Lexer.scanListFast (L : Lexer) (sorted : List Nat) : List Nat :=
  let e := L.embeddedFast sorted
  sorted.filter fun t => !e.contains t

@[csimp] theorem scanList_eq_fast : @Lexer.scanList = @Lexer.scanListFast := by
  funext L sorted
  simp only [Lexer.scanList, Lexer.scanListFast, embedded_eq_fast]

/-- `next_token` with the sorted list and the scan list passed in -/
def Lexer.nextTokenAux (L : Lexer) (F : Facts) (sorted scan : List Nat) (n : Nat) : Nat → Nat → Except LexErr (Option (Piece × Nat))
  | 0, _ => .ok none
  | fuel+1, pos =>
    if pos < n then
      match firstMatch F.mt pos scan with
      | none => .error (.chars pos (sorted.filter (fun t => !L.ignore.contains t)))
      | some (t, len) =>
        let ty := L.retype F sorted t pos len
        if L.ignore.contains ty then L.nextTokenAux F sorted scan n fuel (pos + max len 1)
        else .ok (some ((ty, pos, len), pos + max len 1))
    else .ok none

def Lexer.nextTokenFast (L : Lexer) (F : Facts) (subset : List Nat) (n fuel pos : Nat) : Except LexErr (Option (Piece × Nat)) :=
  let sorted := L.sorted subset
  L.nextTokenAux F sorted (L.scanList sorted) n fuel pos

@[csimp] theorem nextToken_eq_fast : @Lexer.nextToken = @Lexer.nextTokenFast := by
  funext L F subset n fuel
  induction fuel with
  | zero => rfl
  | succ f ih =>
    funext pos
    simp only [Lexer.nextToken, Lexer.nextTokenFast, Lexer.nextTokenAux, ih]
    rfl

/-- the basic loop with the lists passed in -/
def Lexer.lexBasicAux (L : Lexer) (F : Facts) (sorted scan : List Nat) (n : Nat) : Nat → Nat → List Piece × Option LexErr
  | 0, _ => ([], none)
  | fuel+1, pos =>
    match L.nextTokenAux F sorted scan n (n + 1) pos with
    | .error e => ([], some e)
    | .ok none => ([], none)
    | .ok (some (pc, pos')) =>
      let (ps, e) := L.lexBasicAux F sorted scan n fuel pos'
      (pc :: ps, e)

def Lexer.lexBasicFast (L : Lexer) (F : Facts) (all : List Nat) (n fuel pos : Nat) : List Piece × Option LexErr :=
  let sorted := L.sorted all
  L.lexBasicAux F sorted (L.scanList sorted) n fuel pos

@[csimp] theorem lexBasic_eq_fast : @Lexer.lexBasic = @Lexer.lexBasicFast := by
  funext L F all n fuel
  induction fuel with
  | zero => rfl
  | succ f ih =>
    funext pos
    simp only [Lexer.lexBasic, Lexer.lexBasicFast, Lexer.lexBasicAux, nextToken_eq_fast, Lexer.nextTokenFast, ih]
    rfl

def Lexer.lexAllPiecesAux (L : Lexer) (F : Facts) (sorted scan : List Nat) (n : Nat) : Nat → Nat → List Piece' × Nat × Bool
  | 0, pos => ([], pos, false)
  | fuel+1, pos =>
    if pos < n then
      match firstMatch F.mt pos scan with
      | none => ([], pos, true)
      | some (t, len) =>
        let ty := L.retype F sorted t pos len
        let (ps, stop, err) := L.lexAllPiecesAux F sorted scan n fuel (pos + max len 1)
        ((ty, pos, len, L.ignore.contains ty) :: ps, stop, err)
    else ([], pos, false)

def Lexer.lexAllPiecesFast (L : Lexer) (F : Facts) (subset : List Nat) (n fuel pos : Nat) : List Piece' × Nat × Bool :=
  let sorted := L.sorted subset
  L.lexAllPiecesAux F sorted (L.scanList sorted) n fuel pos

@[csimp] theorem lexAllPieces_eq_fast : @Lexer.lexAllPieces = @Lexer.lexAllPiecesFast := by
  funext L F subset n fuel
  induction fuel with
  | zero => rfl
  | succ f ih =>
    funext pos
    simp only [Lexer.lexAllPieces, Lexer.lexAllPiecesFast, Lexer.lexAllPiecesAux, ih]
    rfl

/-- `lexCtx` recompiled after the replacements above (its own code was compiled before them): same text, so the equation is by unfolding -/
def Lexer.lexCtxFast (L : Lexer) (F : Facts) (all : List Nat) (n : Nat) : List (List Nat) → Nat → List Piece × Option LexErr
  | [], _ => ([], none)
  | sub :: subs, pos =>
    match L.nextToken F sub n (n + 1) pos with
    | .ok none => ([], none)
    | .ok (some (pc, pos')) =>
      let (ps, e) := L.lexCtxFast F all n subs pos'
      (pc :: ps, e)
    | .error (.chars p allowed) =>
      match L.nextToken F all n (n + 1) p with
      | .ok (some ((ty, q, len), _)) => ([], some (.token ty q len allowed))
      | _ => ([], some (.chars p allowed))
    | .error e => ([], some e)

@[csimp] theorem lexCtx_eq_fast : @Lexer.lexCtx = @Lexer.lexCtxFast := by
  funext L F all n subs
  induction subs with
  | nil => funext pos; rfl
  | cons sub subs ih =>
    funext pos
    simp only [Lexer.lexCtx, Lexer.lexCtxFast, ih]
    rfl

end LexModel
