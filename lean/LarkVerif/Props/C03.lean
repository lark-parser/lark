import LarkVerif.Shape
import LarkVerif.RuleSize
import LarkVerif.Extracted
/-! # C03 — the returned tree is the documented shaping of a derivation -/
namespace Props.C03
open ShapeProto

/-- **Main theorem.** For every (annotated) derivation forest, the value the callback chain `ExpandSingleChild ∘ ChildFilter` builds bottom-up —
    with the run-length/carry implementation of `None` placement — equals the shaping the documentation prescribes: filtered terminals dropped
    unless the rule keeps all tokens, `_`-rules spliced, `?`-rules with one child (and no alias) replaced by it, aliases renaming the node, one
    `None` per `_EMPTY` marker of an unmatched `[..]`, children in grammar order. -/
theorem built_tree_is_documented_shaping (d : D) (h : d.WF) : buildList d = shapeList d :=
  buildList_eq_shapeList d h

/-- placement of `None`s: the implementation's carry across filtered symbols equals the order-based specification -/
theorem placeholders_in_grammar_order (keepAll : Bool) (ms : List Bool) (cs : List (SymInfo × Val)) (h : ms.count false = cs.length) :
    applyPlan keepAll (runs ms) cs 0 = specChildren keepAll ms cs := by
  have := applyPlan_eq_spec keepAll ms cs 0 h
  simpa using this

/-- a `?`-rule without alias and with exactly one child is that child; with an alias it is always a node -/
theorem expand1_single (name : Nat) (k : Val) : finish true none name [k] = k := rfl
theorem alias_never_inlined (e : Bool) (a name : Nat) (ks : List Val) : finish e (some a) name ks = Val.tree a ks := by
  cases e <;> cases ks with
  | nil => rfl
  | cons k ks => cases ks <;> rfl

-- non-vacuity: `start: [A] "," B` on ",b" with maybe_placeholders: children = [None, b]
example : specChildren false [true, false, false] [(⟨true, true, false⟩, Val.tok 0 0), (⟨true, false, false⟩, Val.tok 1 0)] = [Val.none, Val.tok 1 0] := by rfl
example : applyPlan false (runs [true, false, false]) [(⟨true, true, false⟩, Val.tok 0 0), (⟨true, false, false⟩, Val.tok 1 0)] 0 = [Val.none, Val.tok 1 0] := by rfl

/-- **Placeholder count.** The number of `None`s an unmatched `[..]` contributes — computed by `FindRuleSize` as sums over sequences and maxima over
    alternatives of the expanded body — is the number of symbols its longest alternative keeps (for every well-formed body; nested `[..]` count like
    their own body, `nested_placeholder`). -/
theorem placeholder_count_is_longest_alternative (e : RuleSizeProto.E) (h : RuleSizeProto.WF e) :
    RuleSizeProto.size e = RuleSizeProto.longest (RuleSizeProto.alts e) := RuleSizeProto.size_eq_longest e h

theorem nested_placeholder (x : RuleSizeProto.E) (k : Nat) :
    RuleSizeProto.size (.alt [x, .seq (List.replicate k (.sym false))]) = RuleSizeProto.size x := RuleSizeProto.nested_maybe x k

/-- the source of `FindRuleSize` is what `RuleSizeProto.size` models (re-extracted from /repo on every run): `expansion` sums, `expansions` takes the
    maximum, a non-terminal counts unless its name starts with `_`, a terminal counts under `keep_all_tokens` or when it is not filtered, `_EMPTY` never -/
theorem find_rule_size_source_is_modelled :
    Extracted.findRuleSize = [("expansion", "sum(self._args_as_int(args))"), ("expansions", "max(self._args_as_int(args))"),
      ("isinstance(sym, NonTerminal)", "not sym.name.startswith('_')"), ("isinstance(sym, Terminal)", "self.keep_all_tokens or not sym.filter_out"),
      ("sym is _EMPTY", "False"), ("yield", "a"), ("yield", "1 if self._will_not_get_removed(a) else 0")] := rfl

end Props.C03
