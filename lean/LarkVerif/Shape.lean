namespace ShapeProto

/-- shaped values: a token, a tree, or the `None` placeholder -/
inductive Val where
  | tok (ty : Nat) (v : Nat)
  | tree (data : Nat) (kids : List Val)
  | none

/-- what the tree builder needs to know about one symbol of an expansion -/
structure SymInfo where
  isTerm : Bool
  filterOut : Bool      -- anonymous string literal or `_TERMINAL`
  inlineRule : Bool     -- rule whose name starts with `_`
deriving DecidableEq

def included (keepAll : Bool) (s : SymInfo) : Bool := keepAll || !(s.isTerm && s.filterOut)
def toExpand (s : SymInfo) : Bool := !s.isTerm && s.inlineRule

def kidsOf : Val → List Val
  | Val.tree _ ks => ks
  | _ => []

/-- what one matched symbol contributes to its parent's children (docs/tree_construction.md) -/
def contrib (keepAll : Bool) (s : SymInfo) (c : Val) : List Val :=
  if included keepAll s then (if toExpand s then kidsOf c else [c]) else []

/-- SPEC: walk the rule's items in grammar order; `true` marks the slot of an unmatched `[...]` item
    (`_EMPTY`, load_grammar.py:378), `false` the next real symbol with its child value -/
def specChildren (keepAll : Bool) : List Bool → List (SymInfo × Val) → List Val
  | [], _ => []
  | true :: ms, cs => Val.none :: specChildren keepAll ms cs
  | false :: ms, (s, c) :: cs => contrib keepAll s c ++ specChildren keepAll ms cs
  | false :: _, [] => []

/-- CODE, part 1 (parse_tree_builder.py:164-168): `''.join(str(int(b)))…split('0')` — run lengths of `true`
    before each `false` and after the last one -/
def runs : List Bool → List Nat
  | [] => [0]
  | true :: ms => match runs ms with
    | k :: rest => (k + 1) :: rest
    | [] => [1]
  | false :: ms => 0 :: runs ms

/-- CODE, part 2 (parse_tree_builder.py:172-180 + ChildFilter.__call__): walk the symbols with their run
    lengths; `None`s in front of a filtered-out symbol are carried to the next included one, or to the end -/
def applyPlan (keepAll : Bool) : List Nat → List (SymInfo × Val) → Nat → List Val
  | r :: rs, (s, c) :: cs, acc =>
      if included keepAll s then
        List.replicate (acc + r) Val.none ++ (if toExpand s then kidsOf c else [c]) ++ applyPlan keepAll rs cs 0
      else applyPlan keepAll rs cs (acc + r)
  | r :: _, [], acc => List.replicate (acc + r) Val.none
  | [], _, acc => List.replicate acc Val.none

theorem runs_ne_nil : ∀ ms, runs ms ≠ [] := by
  intro ms
  induction ms with
  | nil => simp [runs]
  | cons b ms ih =>
    cases b with
    | true => simp only [runs]; split <;> simp
    | false => simp [runs]

/-- `applyPlan` sees the first run only through `acc + r`: one more `None` in the first run is one more carried in -/
theorem applyPlan_succ_head (keepAll : Bool) (k : Nat) (rest : List Nat) (cs : List (SymInfo × Val)) (acc : Nat) :
    applyPlan keepAll ((k + 1) :: rest) cs acc = applyPlan keepAll (k :: rest) cs (acc + 1) := by
  cases cs with
  | nil => simp only [applyPlan, Nat.add_right_comm acc 1 k]; rfl
  | cons sc cs' => simp only [applyPlan, Nat.add_right_comm acc 1 k]; rfl

/-- the run-length/carry implementation places every `None` exactly where the spec does -/
theorem applyPlan_eq_spec (keepAll : Bool) : ∀ (ms : List Bool) (cs : List (SymInfo × Val)) (acc : Nat),
    (ms.count false = cs.length) →
    applyPlan keepAll (runs ms) cs acc = List.replicate acc Val.none ++ specChildren keepAll ms cs := by
  intro ms
  induction ms with
  | nil =>
    intro cs acc h
    cases cs with
    | nil => simp [runs, applyPlan, specChildren]
    | cons _ _ => cases h
  | cons b ms ih =>
    intro cs acc h
    cases b with
    | true =>
      -- `runs (true :: ms)` bumps the first run of `runs ms`; the bump becomes a carried `None`, which goes in front
      cases hr : runs ms with
      | nil => exact absurd hr (runs_ne_nil ms)
      | cons k rest =>
        simp only [runs, hr, specChildren]
        rw [applyPlan_succ_head, ← hr, ih cs (acc + 1) h, List.replicate_succ', List.append_assoc]; rfl
    | false =>
      rw [List.count_cons_self] at h
      cases cs with
      | nil => cases h
      | cons sc cs' =>
        have h' : ms.count false = cs'.length := Nat.succ.inj h
        simp only [runs, applyPlan, specChildren, contrib, Nat.add_zero]
        split
        · rw [ih cs' 0 h', List.replicate_zero, List.nil_append, List.append_assoc]
        · rw [ih cs' acc h', List.nil_append]

/-- `?rule` without alias and with exactly one child is replaced by it (parse_tree_builder.py:16) -/
def finish (expand1 : Bool) (alias : Option Nat) (name : Nat) (kids : List Val) : Val :=
  match expand1, alias, kids with
  | true, Option.none, [k] => k
  | _, some a, _ => Val.tree a kids
  | _, Option.none, _ => Val.tree name kids


/-- what the builder knows about a rule alternative -/
structure RuleInfo where
  name : Nat
  alias : Option Nat
  expand1 : Bool
  keepAll : Bool
  markers : List Bool        -- `empty_indices` when `maybe_placeholders` is on, else all `false`

/-- derivation forests annotated with the symbol each tree stands for -/
inductive D where
  | nil
  | leaf (s : SymInfo) (ty v : Nat) (rest : D)
  | node (s : SymInfo) (r : RuleInfo) (kids : D) (rest : D)

def D.len : D → Nat
  | .nil => 0
  | .leaf _ _ _ rest => rest.len + 1
  | .node _ _ _ rest => rest.len + 1

/-- every node's marker list has one `false` per child -/
def D.WF : D → Prop
  | .nil => True
  | .leaf _ _ _ rest => rest.WF
  | .node _ r kids rest => r.markers.count false = kids.len ∧ kids.WF ∧ rest.WF

/-- SPEC (documentation): shape every tree of the forest, children in grammar order -/
def shapeList : D → List (SymInfo × Val)
  | .nil => []
  | .leaf s ty v rest => (s, Val.tok ty v) :: shapeList rest
  | .node s r kids rest =>
      (s, finish r.expand1 r.alias r.name (specChildren r.keepAll r.markers (shapeList kids))) :: shapeList rest

/-- CODE: the callback chain `ExpandSingleChild ∘ ChildFilter` applied bottom-up by the parser drivers -/
def buildList : D → List (SymInfo × Val)
  | .nil => []
  | .leaf s ty v rest => (s, Val.tok ty v) :: buildList rest
  | .node s r kids rest =>
      (s, finish r.expand1 r.alias r.name (applyPlan r.keepAll (runs r.markers) (buildList kids) 0)) :: buildList rest

theorem buildList_length : ∀ d : D, (buildList d).length = d.len := by
  intro d
  induction d with
  | nil => rfl
  | leaf s ty v rest ih => simp [buildList, D.len, ih]
  | node s r kids rest _ ih => simp [buildList, D.len, ih]

/-- C03: the tree every engine builds from a derivation is the documented shaping of that derivation -/
theorem buildList_eq_shapeList : ∀ d : D, d.WF → buildList d = shapeList d := by
  intro d
  induction d with
  | nil => intro _; rfl
  | leaf s ty v rest ih => intro h; simp only [buildList, shapeList]; rw [ih h]
  | node s r kids rest ihk ihr =>
    intro h
    obtain ⟨hm, hk, hr⟩ := h
    simp only [buildList, shapeList]
    rw [ihr hr]
    have hlen : r.markers.count false = (buildList kids).length := by rw [buildList_length]; exact hm
    rw [applyPlan_eq_spec r.keepAll r.markers (buildList kids) 0 hlen, ihk hk]
    simp

end ShapeProto
