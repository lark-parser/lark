import LarkVerif.LR
/-! C13: error states and `accepts()`.  `ParserState.feed_token` mutates the stacks while it reduces and raises `UnexpectedToken` when the state on
    top has no action for the lookahead: the reductions made until then stay, the token is not consumed.  `reductionsOn` (`LR.lean`) is that state
    and keeps the driver invariant *for the same consumed input* (`reductionsOn_inv`), so a parse resumed from it (`resume_parse`, `on_error`,
    feeding further tokens) accepts only `consumed ++ rest`.  `acceptsOf` models `InteractiveParser.accepts()`. -/
namespace LRProto
open EarleyProto

/-- **Resuming from an error state is sound**: the offending token `t` is not part of what is accepted. -/
theorem resume_from_error_sound {G : Grammar} {T : Table} {s0 : Nat} (hT : TableSafe G T s0) {eof fuel fuel' t : Nat}
    {cfg : Config} {consumed rest : List Nat} {v : Sym × List Nat} (hinv : Inv G T cfg consumed)
    (hacc : parseFrom T eof fuel' (reductionsOn T t false fuel cfg) rest = Outcome.accept v) :
    v.2 = consumed ++ rest ∧ DerivesSeq G [Sym.nt s0] (consumed ++ rest) :=
  (parseFrom_sound hT (reductionsOn_inv hT t false fuel hinv) hacc).2

/-- does `feed_token` of a token of type `t` succeed (shift or accept) from `cfg`? -/
def feedOK (T : Table) (eof fuel : Nat) (cfg : Config) (t : Nat) : Bool :=
  match reduceLoop T t (t == eof) fuel cfg with
  | Outcome.shifted _ => true
  | Outcome.accept _ => true
  | _ => false

theorem feedOK_iff {T : Table} {eof fuel : Nat} {cfg : Config} {t : Nat} :
    feedOK T eof fuel cfg t = true ↔
      (∃ c', reduceLoop T t (t == eof) fuel cfg = Outcome.shifted c') ∨ ∃ v, reduceLoop T t (t == eof) fuel cfg = Outcome.accept v := by
  unfold feedOK
  cases reduceLoop T t (t == eof) fuel cfg <;> simp

/-- `InteractiveParser.accepts()`: trial feeding, on copies, of the terminals that have an action in the state on top (`choices()`) -/
def acceptsOf (T : Table) (terms : List Nat) (eof fuel : Nat) (cfg : Config) : List Nat :=
  (terms.filter fun t => match cfg.states with
    | [] => false
    | q :: _ => (T.action q t).isSome).filter (feedOK T eof fuel cfg)

theorem feedOK_needs_choice {T : Table} {eof fuel : Nat} {cfg : Config} {t : Nat} (h : feedOK T eof fuel cfg t = true) :
    ∃ q ss, cfg.states = q :: ss ∧ (T.action q t).isSome = true := by
  obtain ⟨states, vals⟩ := cfg
  cases fuel with
  | zero => cases h
  | succ f =>
    cases states with
    | nil => cases h
    | cons q ss =>
      refine ⟨q, ss, rfl, ?_⟩
      cases hact : T.action q t with
      | none => simp [feedOK, reduceLoop, hact] at h
      | some a => rfl

/-- **`accepts()` is exact**: a terminal is in it iff feeding a token of that type succeeds — restricting the trials to `choices()` loses nothing. -/
theorem accepts_exact (T : Table) (terms : List Nat) (eof fuel : Nat) (cfg : Config) (t : Nat) (ht : t ∈ terms) :
    t ∈ acceptsOf T terms eof fuel cfg ↔ feedOK T eof fuel cfg t = true := by
  unfold acceptsOf
  simp only [List.mem_filter]
  constructor
  · intro h; exact h.2
  · intro h
    obtain ⟨q, ss, hst, hq⟩ := feedOK_needs_choice h
    refine ⟨⟨ht, ?_⟩, h⟩
    simp [hst, hq]

end LRProto
