import LarkVerif.EarleyExec
/-! # A certificate for the *soundness* of a parse forest (`lark/parsers/earley.py:78 predict_and_complete`, `xearley.py:104-124` scan / ignore carry-over)

The SPPF lark builds is a graph of symbol/intermediate nodes `(s, start, end)` whose packed families are `(rule, left, right)`: `left` the intermediate
node of the same rule one symbol earlier (absent at the first symbol), `right` the node or token of the symbol just before the dot.  With a dynamic lexer an
item that is carried across an `%ignore` match gets a *new* node `(s, start, end')` holding copies of the old node's families (xearley.py:112-120), so a
family's children need not reach the node's end: they end where the ignored text begins.

`famOk` is the local condition on one family of one node; `checkForest` evaluates it on every family of a forest exported from the real parser.
`forest_sound`: if every family passes, then **every tree that can be read from any node** — one family per node, to any depth, the forest may be cyclic —
yields a token-type string that (a) is derived by what the node's label stands for (`A` for a symbol node, the first `d` symbols of the rule for an
intermediate node) and (b) is spelled by a path through the token lattice from the node's start to its end (ignored stretches anywhere).  For the root
`(start, 0, n)` this says: every tree the forest encodes is a parse of the input. -/
namespace ForestCert
open EarleyProto

inductive Lbl where
  | sym (A : Nat)                 -- complete item: the rule's origin
  | lr0 (r : Rule) (d : Nat)      -- incomplete item: (rule, ptr)
deriving DecidableEq

structure FNode where
  lbl : Lbl
  s : Nat
  e : Nat

inductive Child where
  | node (m : Nat)                -- index of a symbol node
  | tok (a p q : Nat)             -- TokenNode: terminal, start offset, end offset
deriving DecidableEq

structure Fam where
  rule : Rule
  left : Option Nat
  right : Option Child

structure Forest where
  nodes : List FNode
  fams : List (List Fam)          -- node index ↦ its packed families

def Forest.node (F : Forest) (n : Nat) : FNode := F.nodes.getD n ⟨Lbl.sym 0, 0, 0⟩
def Forest.famsOf (F : Forest) (n : Nat) : List Fam := F.fams.getD n []

/-- a tree read from node `n` with yield `ws` (terminal types): one family, then trees of its children -/
inductive Reads (F : Forest) : Nat → List Nat → Prop
  | empty (n : Nat) (f : Fam) : f ∈ F.famsOf n → f.left = none → f.right = none → Reads F n []
  | tok1 (n : Nat) (f : Fam) (a p q : Nat) : f ∈ F.famsOf n → f.left = none → f.right = some (Child.tok a p q) → Reads F n [a]
  | node1 (n : Nat) (f : Fam) (m : Nat) (ws : List Nat) : f ∈ F.famsOf n → f.left = none → f.right = some (Child.node m) → Reads F m ws → Reads F n ws
  | tok2 (n : Nat) (f : Fam) (l a p q : Nat) (wsL : List Nat) : f ∈ F.famsOf n → f.left = some l → f.right = some (Child.tok a p q) →
      Reads F l wsL → Reads F n (wsL ++ [a])
  | node2 (n : Nat) (f : Fam) (l m : Nat) (wsL wsR : List Nat) : f ∈ F.famsOf n → f.left = some l → f.right = some (Child.node m) →
      Reads F l wsL → Reads F m wsR → Reads F n (wsL ++ wsR)

/-! ## reachability over ignore edges, decidable -/

def ignReach (L : FLattice) : Nat → Nat → Nat → Bool
  | 0, i, j => i == j
  | fuel+1, i, j => i == j || L.igns.any (fun e => e.1 == i && ignReach L fuel e.2 j)

theorem ignReach_sound (L : FLattice) : ∀ (fuel i j : Nat), ignReach L fuel i j = true → IgnStar L.toLattice i j := by
  intro fuel
  induction fuel with
  | zero => intro i j h; simp only [ignReach, beq_iff_eq] at h; subst h; exact IgnStar.refl i
  | succ fuel ih =>
    intro i j h
    simp only [ignReach, Bool.or_eq_true, beq_iff_eq, List.any_eq_true, Bool.and_eq_true] at h
    rcases h with h | ⟨⟨a, b⟩, hin, ha, hr⟩
    · subst h; exact IgnStar.refl i
    · simp only at ha hr
      subst ha
      exact IgnStar.step a b j hin (ih b j hr)

/-! ## the local condition -/

/-- the dot position the family stands at, read off the node's label -/
def dotOf (lbl : Lbl) (r : Rule) : Option Nat :=
  match lbl with
  | Lbl.sym A => if r.lhs = A then some r.rhs.length else none
  | Lbl.lr0 r' d => if r' = r ∧ d < r.rhs.length then some d else none

/-- span and symbol of a right child: `(symbol it stands for, start, end)` -/
def childInfo (F : Forest) : Child → Option (Sym × Nat × Nat)
  | Child.tok a p q => some (Sym.t a, p, q)
  | Child.node m => match (F.node m).lbl with
      | Lbl.sym B => some (Sym.nt B, (F.node m).s, (F.node m).e)
      | Lbl.lr0 _ _ => none

def famOk (G : Grammar) (L : FLattice) (F : Forest) (fuel : Nat) (n : Nat) (f : Fam) : Bool :=
  let N := F.node n
  G.rules.contains f.rule &&
  match dotOf N.lbl f.rule with
  | none => false
  | some 0 => f.left.isNone && f.right.isNone && ignReach L fuel N.s N.e
  | some (d+1) =>
    match f.right with
    | none => false
    | some R =>
      (match R with | Child.tok a p q => L.edges.contains (a, p, q) | Child.node _ => true) &&
      match childInfo F R with
      | none => false
      | some (X, rs, re) =>
        (f.rule.rhs[d]? == some X) && ignReach L fuel re N.e &&
        match f.left with
        | none => d == 0 && ignReach L fuel N.s rs
        | some l => (F.node l).lbl == Lbl.lr0 f.rule d && (F.node l).s == N.s && (F.node l).e == rs && decide (0 < d)

def checkForest (G : Grammar) (L : FLattice) (F : Forest) (fuel : Nat) : Bool :=
  (List.range F.fams.length).all fun n => (F.famsOf n).all fun f => famOk G L F fuel n f

/-- what a label stands for: `A` for a symbol node, the first `d` symbols of the rule for an intermediate node -/
def LblClaim (G : Grammar) (lbl : Lbl) (ws : List Nat) : Prop :=
  match lbl with
  | Lbl.sym A => DerivesSeq G [Sym.nt A] ws
  | Lbl.lr0 r d => DerivesSeq G (r.rhs.take d) ws

/-- what a node claims about the yield of every tree below it -/
def Claim (G : Grammar) (L : FLattice) (F : Forest) (n : Nat) (ws : List Nat) : Prop :=
  Path L.toLattice (F.node n).s (F.node n).e ws ∧ LblClaim G (F.node n).lbl ws

/-- from the dot position and the derivation of the first `d` symbols to the label's claim -/
theorem claim_of_prefix (G : Grammar) (lbl : Lbl) (r : Rule) (d : Nat) (ws : List Nat) (hr : r ∈ G.rules) (hd : dotOf lbl r = some d)
    (h : DerivesSeq G (r.rhs.take d) ws) : LblClaim G lbl ws := by
  cases lbl with
  | sym A =>
    simp only [dotOf] at hd
    split at hd
    · rename_i hA; cases hd; subst hA
      exact DerivesSeq.single hr (by simpa using h)
    · cases hd
  | lr0 r' d' =>
    simp only [dotOf] at hd
    split at hd
    · rename_i hc; cases hd; obtain ⟨rfl, _⟩ := hc; exact h
    · cases hd

theorem checkForest_fam (G : Grammar) (L : FLattice) (F : Forest) (fuel : Nat) (h : checkForest G L F fuel = true) (n : Nat) (f : Fam)
    (hf : f ∈ F.famsOf n) : famOk G L F fuel n f = true := by
  simp only [checkForest, List.all_eq_true, List.mem_range] at h
  have hn : n < F.fams.length := by
    rcases Nat.lt_or_ge n F.fams.length with h' | h'
    · exact h'
    · simp [Forest.famsOf, List.getD, List.getElem?_eq_none h'] at hf
  exact h n hn f hf

/-- The claim of a node from the claims of the two parts of one of its families: the left part reads `wsL` up to the start of the
    right child, which reads `wsR` for the symbol under the dot; ignored text leads on to the node's end. -/
theorem claim_of_parts {G : Grammar} {L : FLattice} {lbl : Lbl} {r : Rule} {d : Nat} {X : Sym} {s rs re e : Nat} {wsL wsR : List Nat}
    (hr : r ∈ G.rules) (hd : dotOf lbl r = some (d + 1)) (hX : r.rhs[d]? = some X)
    (hLp : Path L.toLattice s rs wsL) (hLc : DerivesSeq G (r.rhs.take d) wsL)
    (hRp : Path L.toLattice rs re wsR) (hRc : DerivesSeq G [X] wsR) (hend : IgnStar L.toLattice re e) :
    Path L.toLattice s e (wsL ++ wsR) ∧ LblClaim G lbl (wsL ++ wsR) := by
  refine ⟨?_, claim_of_prefix G lbl r (d + 1) _ hr hd ?_⟩
  · simpa using (hLp.append hRp).append hend.toPath
  · rw [take_succ_of_getElem? hX]; exact hLc.append hRc

/-- One non-empty family, whatever its shape: if its left part (when there is one) and its right child (when it is a node) satisfy
    their claims, the node's claim holds of what the family reads.  `famOk` puts the right child at the symbol `X` under the dot,
    lets ignored text lead from its end to the node's end, and makes it begin where the left part ends: the intermediate node
    `(rule, d)` from the node's start, or (first symbol) ignored text. -/
theorem fam_claim {G : Grammar} {L : FLattice} {F : Forest} {fuel n : Nat} {f : Fam} {R : Child} {wsL wsR : List Nat}
    (hk : famOk G L F fuel n f = true) (hrt : f.right = some R)
    (hL : match f.left with | none => wsL = [] | some l => Claim G L F l wsL)
    (hR : match R with | Child.tok a _ _ => wsR = [a] | Child.node m => Claim G L F m wsR) :
    Claim G L F n (wsL ++ wsR) := by
  simp only [famOk, hrt, Bool.and_eq_true, List.contains_iff_mem] at hk
  obtain ⟨hrule, hk⟩ := hk
  cases hd : dotOf (F.node n).lbl f.rule with
  | none => simp [hd] at hk
  | some d =>
    cases d with
    | zero => simp [hd] at hk
    | succ d =>
      cases hci : childInfo F R with
      | none => simp [hd, hci] at hk
      | some t =>
        obtain ⟨X, rs, re⟩ := t
        simp only [hd, hci, Bool.and_eq_true, beq_iff_eq] at hk
        obtain ⟨hedge, ⟨hX, hend⟩, hleft⟩ := hk
        have hr : Path L.toLattice rs re wsR ∧ DerivesSeq G [X] wsR := by
          cases R with
          | tok a p q =>
            cases hci; subst hR
            exact ⟨Path.edge rs re re a [] (List.contains_iff_mem.mp hedge) (Path.nil re), DerivesSeq.term a [] [] DerivesSeq.nil⟩
          | node m =>
            simp only [childInfo] at hci
            split at hci
            · rename_i B hB
              cases hci
              obtain ⟨hp, hc⟩ := hR
              rw [hB] at hc
              exact ⟨hp, hc⟩
            · cases hci
        have hl : Path L.toLattice (F.node n).s rs wsL ∧ DerivesSeq G (f.rule.rhs.take d) wsL := by
          cases hf : f.left with
          | none =>
            simp only [hf, Bool.and_eq_true, beq_iff_eq] at hleft hL
            obtain ⟨rfl, hi⟩ := hleft
            subst hL
            exact ⟨(ignReach_sound L fuel _ _ hi).toPath, DerivesSeq.nil⟩
          | some l =>
            simp only [hf, Bool.and_eq_true, beq_iff_eq, decide_eq_true_eq] at hleft hL
            obtain ⟨⟨⟨hlbl, hs⟩, he⟩, _⟩ := hleft
            obtain ⟨hp, hc⟩ := hL
            rw [hs, he] at hp
            rw [hlbl] at hc
            exact ⟨hp, hc⟩
        exact claim_of_parts hrule hd hX hl.1 hl.2 hr.1 hr.2 (ignReach_sound L fuel _ _ hend)

/-- **Soundness of a certified forest**: every tree read from any node satisfies the node's claim. -/
theorem forest_sound (G : Grammar) (L : FLattice) (F : Forest) (fuel : Nat) (h : checkForest G L F fuel = true) :
    ∀ n ws, Reads F n ws → Claim G L F n ws := by
  intro n ws hr
  induction hr with
  | empty n f hf hl hrt =>
    have hk := checkForest_fam G L F fuel h n f hf
    simp only [famOk, Bool.and_eq_true, List.contains_iff_mem] at hk
    obtain ⟨hrule, hk⟩ := hk
    cases hd : dotOf (F.node n).lbl f.rule with
    | none => simp [hd] at hk
    | some d =>
      cases d with
      | zero =>
        simp only [hd, Bool.and_eq_true] at hk
        exact ⟨(ignReach_sound L fuel _ _ hk.2).toPath, claim_of_prefix G _ f.rule 0 [] hrule hd DerivesSeq.nil⟩
      | succ d => simp [hd, hrt] at hk
  | tok1 n f a p q hf hl hrt => exact fam_claim (wsL := []) (checkForest_fam G L F fuel h n f hf) hrt (by rw [hl]) rfl
  | node1 n f m ws hf hl hrt _ ih => exact fam_claim (wsL := []) (checkForest_fam G L F fuel h n f hf) hrt (by rw [hl]) ih
  | tok2 n f l a p q wsL hf hl hrt _ ih => exact fam_claim (checkForest_fam G L F fuel h n f hf) hrt (by rw [hl]; exact ih) rfl
  | node2 n f l m wsL wsR hf hl hrt _ _ ihL ihR =>
    exact fam_claim (checkForest_fam G L F fuel h n f hf) hrt (by rw [hl]; exact ihL) ihR

/-- for the root of a forest: every tree it encodes is a parse of the input from `start` -/
theorem certified_root_trees_are_parses (G : Grammar) (L : FLattice) (F : Forest) (fuel : Nat) (h : checkForest G L F fuel = true)
    (root start : Nat) (hroot : (F.node root).lbl = Lbl.sym start) (ws : List Nat) (hr : Reads F root ws) :
    Path L.toLattice (F.node root).s (F.node root).e ws ∧ DerivesSeq G [Sym.nt start] ws := by
  have := forest_sound G L F fuel h root ws hr
  unfold Claim at this
  rw [hroot] at this
  exact this

end ForestCert
