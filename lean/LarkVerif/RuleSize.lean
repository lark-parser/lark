/-! C03, placeholder sizing: `load_grammar.FindRuleSize` decides how many `None`s an unmatched `[..]` contributes (`EBNF_to_BNF.maybe` appends the
    alternative `[_EMPTY] * rule_size`).  The code computes a sum over sequences and a maximum over alternatives, bottom-up, on the already expanded body;
    the documented meaning is "as many as the longest alternative keeps symbols".  `size_eq_longest` proves they are the same number. -/
namespace RuleSizeProto

/-- the body of a `[..]` after the inner operators were expanded: symbols (kept in the tree or not), sequences, alternatives -/
inductive E where
  | sym (kept : Bool)
  | seq (l : List E)
  | alt (l : List E)

mutual
/-- CODE: `FindRuleSize`: `expansion` = sum, `expansions` = max, a symbol counts 1 iff `_will_not_get_removed` -/
def size : E → Nat
  | .sym k => if k then 1 else 0
  | .seq l => sumSizes l
  | .alt l => maxSizes l
def sumSizes : List E → Nat
  | [] => 0
  | e :: l => size e + sumSizes l
def maxSizes : List E → Nat
  | [] => 0
  | e :: l => max (size e) (maxSizes l)
end

def cross : List (List Bool) → List (List Bool) → List (List Bool)
  | [], _ => []
  | a :: as, bs => bs.map (a ++ ·) ++ cross as bs

mutual
/-- SPEC: the plain alternatives the body stands for, each as the list of its symbols' kept-flags -/
def alts : E → List (List Bool)
  | .sym k => [[k]]
  | .seq l => seqAlts l
  | .alt l => altAlts l
def seqAlts : List E → List (List Bool)
  | [] => [[]]
  | e :: l => cross (alts e) (seqAlts l)
def altAlts : List E → List (List Bool)
  | [] => []
  | e :: l => alts e ++ altAlts l
end

/-- the number of symbols the longest alternative keeps -/
def longest (as : List (List Bool)) : Nat := (as.map (fun a => a.count true)).foldr max 0

theorem longest_nil : longest [] = 0 := rfl
theorem longest_cons (a : List Bool) (as : List (List Bool)) : longest (a :: as) = max (a.count true) (longest as) := rfl

theorem longest_append (as bs : List (List Bool)) : longest (as ++ bs) = max (longest as) (longest bs) := by
  induction as with
  | nil => exact (Nat.zero_max _).symm
  | cons a as ih => rw [List.cons_append, longest_cons, longest_cons, ih, Nat.max_assoc]

/-- fails for the empty family: `0` against `a.count true` -/
theorem longest_map_prefix (a : List Bool) (bs : List (List Bool)) (h : bs ≠ []) :
    longest (bs.map (a ++ ·)) = a.count true + longest bs := by
  induction bs with
  | nil => exact absurd rfl h
  | cons b bs ih =>
    cases bs with
    | nil => simp only [List.map, longest_cons, longest_nil, Nat.max_zero, List.count_append]
    | cons b' bs' =>
      rw [List.map_cons, longest_cons, ih (List.cons_ne_nil _ _), longest_cons b, List.count_append, Nat.add_max_add_left]

theorem cross_ne_nil {as bs : List (List Bool)} (ha : as ≠ []) (hb : bs ≠ []) : cross as bs ≠ [] := by
  obtain ⟨a, as, rfl⟩ := List.exists_cons_of_ne_nil ha
  obtain ⟨b, bs, rfl⟩ := List.exists_cons_of_ne_nil hb
  exact List.cons_ne_nil _ _

theorem longest_cross (as bs : List (List Bool)) (ha : as ≠ []) (hb : bs ≠ []) : longest (cross as bs) = longest as + longest bs := by
  induction as with
  | nil => exact absurd rfl ha
  | cons a as ih =>
    cases as with
    | nil => simp only [cross, List.append_nil, longest_map_prefix a bs hb, longest_cons, longest_nil, Nat.max_zero]
    | cons a' as' =>
      rw [cross, longest_append, longest_map_prefix a bs hb, ih (List.cons_ne_nil _ _), longest_cons a, Nat.add_max_add_right]

/-- well-formed bodies: every alternation has at least one alternative (lark's grammar of grammars guarantees it) -/
inductive WF : E → Prop
  | sym (k) : WF (.sym k)
  | seq (l) : (∀ e ∈ l, WF e) → WF (.seq l)
  | alt (l) : l ≠ [] → (∀ e ∈ l, WF e) → WF (.alt l)

/-- The non-emptiness conjuncts are carried because `longest_cross` fails on an empty family. -/
theorem size_spec :
    (∀ e, WF e → alts e ≠ [] ∧ size e = longest (alts e)) ∧
    (∀ l, (∀ e ∈ l, WF e) → (l ≠ [] → altAlts l ≠ []) ∧ maxSizes l = longest (altAlts l)) ∧
    (∀ l, (∀ e ∈ l, WF e) → seqAlts l ≠ [] ∧ sumSizes l = longest (seqAlts l)) := by
  apply alts.mutual_induct
  · intro k _; exact ⟨List.cons_ne_nil _ _, by cases k <;> rfl⟩
  · intro l ih h; cases h with | seq _ hl => exact ih hl
  · intro l ih h; cases h with | alt _ hne hl => exact ⟨(ih hl).1 hne, (ih hl).2⟩
  · intro _; exact ⟨fun h => absurd rfl h, rfl⟩
  · intro e l ihe ihl h
    obtain ⟨he, hl⟩ := List.forall_mem_cons.mp h
    refine ⟨fun _ hc => (ihe he).1 (List.append_eq_nil_iff.mp hc).1, ?_⟩
    rw [maxSizes, altAlts, longest_append, (ihe he).2, (ihl hl).2]
  · intro _; exact ⟨List.cons_ne_nil _ _, rfl⟩
  · intro e l ihe ihl h
    obtain ⟨he, hl⟩ := List.forall_mem_cons.mp h
    refine ⟨cross_ne_nil (ihe he).1 (ihl hl).1, ?_⟩
    rw [sumSizes, seqAlts, longest_cross _ _ (ihe he).1 (ihl hl).1, (ihe he).2, (ihl hl).2]

/-- **`FindRuleSize` computes the number of symbols the longest alternative keeps.** -/
theorem size_eq_longest (e : E) (h : WF e) : size e = longest (alts e) := (size_spec.1 e h).2
theorem sumSizes_eq : ∀ l, (∀ e ∈ l, WF e) → sumSizes l = longest (seqAlts l) := fun l h => (size_spec.2.2 l h).2
theorem maxSizes_eq : ∀ l, (∀ e ∈ l, WF e) → maxSizes l = longest (altAlts l) := fun l h => (size_spec.2.1 l h).2

/-- `[x]` nested in the body: by the time the outer `[..]` is sized it has become `x | _EMPTY…_EMPTY` (never kept), so it counts like `x` -/
theorem nested_maybe (x : E) (k : Nat) : size (.alt [x, .seq (List.replicate k (.sym false))]) = size x := by
  have : sumSizes (List.replicate k (E.sym false)) = 0 := by
    induction k with
    | zero => rfl
    | succ k ih => simp [List.replicate_succ, sumSizes, size, ih]
  simp [size, maxSizes, this]

-- `[A "x" | B C D]` with the literal filtered: 3; with keep_all_tokens: still 3 (A "x" keeps 2)
example : size (.alt [.seq [.sym true, .sym false], .seq [.sym true, .sym true, .sym true]]) = 3 := by decide
example : longest (alts (.alt [.seq [.sym true, .sym false], .seq [.sym true, .sym true, .sym true]])) = 3 := by decide

end RuleSizeProto
