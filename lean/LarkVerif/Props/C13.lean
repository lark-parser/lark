import LarkVerif.Heap
import LarkVerif.DeepCopy
import LarkVerif.LRError
/-! # C13 — interactive parser: forks independent, resume equals parse -/
namespace Props.C13
open HeapProto ShapeProto

/-- **Frame.** The value a parser state denotes depends only on the list objects reachable from its value stack. -/
theorem denotation_frame (h h' : Heap) (f : Nat) (v : HV) (hag : ∀ r ∈ reach h f v, h r = h' r) : den h f v = den h' f v :=
  den_frame h h' f v hag

/-- **Forks are independent.** When one fork's reduction extends a child list in place (ChildFilterLALR's left-recursion optimisation), every
    value of a fork whose reachable objects do not include that list — what a deep copy establishes — keeps its denotation. -/
theorem fork_independent (h : Heap) (r : Ref) (extra : List HV) (f : Nat) (stackB : List HV)
    (hdisj : ∀ v ∈ stackB, r ∉ reach h f v) :
    ∀ v ∈ stackB, den (appendInPlace h r extra) f v = den h f v := fork_unaffected h r extra f stackB hdisj

/-- … and the fork that reduced obtains exactly the pure result `Tree(name, old_children ++ extra)`. -/
theorem in_place_adoption_is_pure (h : Heap) (r : Ref) (extra : List HV) (f name : Nat) (olds news : List Val)
    (hold : (h r).mapM (den h f) = some olds) (hnew : extra.mapM (den h f) = some news)
    (hsep : ∀ v ∈ h r ++ extra, r ∉ reach h f v) :
    den (appendInPlace h r extra) (f+1) (HV.tree name r) = some (Val.tree name (olds ++ news)) :=
  adopt_den h r extra f name olds news hold hnew hsep

/-- **Feeding tokens one by one and then `$END` is `parse`** (pure driver: a parser state is a value, so a copy is the same state). -/
theorem feed_then_eof_eq_parse (T : LRProto.Table) (eof fuel : Nat) (toks : List Nat) :
    LRProto.parse T eof fuel toks = LRProto.parseFrom T eof fuel ⟨[T.start], []⟩ toks := rfl

/-- resuming from the state reached after a prefix continues exactly like the parse of the whole sequence -/
theorem resume_eq_parse (T : LRProto.Table) (eof fuel : Nat) (cfg cfg' : LRProto.Config) (t : Nat) (rest : List Nat)
    (h : LRProto.reduceLoop T t false fuel cfg = LRProto.Outcome.shifted cfg') :
    LRProto.parseFrom T eof fuel cfg (t :: rest) = LRProto.parseFrom T eof fuel cfg' rest := by
  simp [LRProto.parseFrom, h]

/-- **Error states.** The stacks `feed_token` leaves behind when it raises (`reductionsOn`: the reductions made before the error was noticed stay, the
    token is not consumed) still satisfy the driver invariant for the input consumed so far … -/
theorem error_state_is_a_parser_state {G : EarleyProto.Grammar} {T : LRProto.Table} {s0 : Nat} (hT : LRProto.TableSafe G T s0) (t : Nat) (isEnd : Bool)
    (fuel : Nat) (cfg : LRProto.Config) (consumed : List Nat) (h : LRProto.Inv G T cfg consumed) :
    LRProto.Inv G T (LRProto.reductionsOn T t isEnd fuel cfg) consumed :=
  LRProto.reductionsOn_inv hT t isEnd fuel h

/-- … they are exactly the state the verdict was reached in (no action for the token on `error`; the shift on top of them on success) … -/
theorem error_state_has_no_action (T : LRProto.Table) (t : Nat) (isEnd : Bool) (fuel : Nat) (cfg : LRProto.Config)
    (h : LRProto.reduceLoop T t isEnd fuel cfg = LRProto.Outcome.error) :
    ∃ q ss, (LRProto.reductionsOn T t isEnd fuel cfg).states = q :: ss ∧ T.action q t = none := by
  cases LRProto.reduceLoop_vs_reductionsOn h with
  | error q ss hq hact => exact ⟨q, ss, hq, hact⟩

/-- … and **resuming from an error state** (`resume_parse`, `on_error`, feeding further tokens) is as sound as a parse: what it accepts is a derivation
    of the consumed input followed by the remaining tokens, the offending token excluded. -/
theorem resume_from_error_state_sound {G : EarleyProto.Grammar} {T : LRProto.Table} {s0 : Nat} (hT : LRProto.TableSafe G T s0) (eof fuel fuel' t : Nat)
    (cfg : LRProto.Config) (consumed rest : List Nat) (v : EarleyProto.Sym × List Nat) (hinv : LRProto.Inv G T cfg consumed)
    (hacc : LRProto.parseFrom T eof fuel' (LRProto.reductionsOn T t false fuel cfg) rest = LRProto.Outcome.accept v) :
    v.2 = consumed ++ rest ∧ EarleyProto.DerivesSeq G [EarleyProto.Sym.nt s0] (consumed ++ rest) :=
  LRProto.resume_from_error_sound hT hinv hacc

/-- **`accepts()` is exact.** Trial feeding (on copies) of the terminals in `choices()` yields exactly the terminals whose token can be fed. -/
theorem accepts_is_exact (T : LRProto.Table) (terms : List Nat) (eof fuel : Nat) (cfg : LRProto.Config) (t : Nat) (ht : t ∈ terms) :
    t ∈ LRProto.acceptsOf T terms eof fuel cfg ↔ LRProto.feedOK T eof fuel cfg t = true :=
  LRProto.accepts_exact T terms eof fuel cfg t ht

-- non-vacuity: the aliased case really differs (a fork that still reaches the mutated list sees the change)
example : den (appendInPlace (fun _ => [HV.tok 0 0]) 0 [HV.tok 1 1]) 1 (HV.tree 7 0) = some (Val.tree 7 [Val.tok 0 0, Val.tok 1 1]) := by rfl
example : den (fun _ => [HV.tok 0 0]) 1 (HV.tree 7 0) = some (Val.tree 7 [Val.tok 0 0]) := by rfl

/-- **What `copy()` establishes** (`ParserState.copy` deep-copies the value stack): for a finite value whose list objects all lie below the allocation
    pointer `nx`, the deep copy leaves every old object untouched, consists of fresh list objects only (addresses in `[nx, nx')`), and denotes the
    same pure value — the disjointness that `fork_independent` assumes. -/
theorem deepcopy_is_fresh_and_equal (f : Nat) (h : Heap) (nx : Ref) (v : HV) (hb : Below h f nx v) (hfin : Fin h f v) :
    Spec f h nx v (deepcopy f h nx v) := deepcopy_spec f h nx v hb hfin

/-- after `copy()`, an in-place append by the **original** (the LALR tree builder extends the child list of an inlined `_rule` in place) does not change
    what the fork denotes … -/
theorem fork_survives_mutation_of_original (f : Nat) (h : Heap) (nx : Ref) (v : HV) (hb : Below h f nx v) (hfin : Fin h f v)
    (r : Ref) (hr : r < nx) (extra : List HV) :
    den (appendInPlace (deepcopy f h nx v).1 r extra) f (deepcopy f h nx v).2.2 = den h f v :=
  copy_then_mutate_original f h nx v hb hfin r hr extra

/-- … and an in-place append by the **fork** does not change what the original denotes. -/
theorem original_survives_mutation_of_fork (f : Nat) (h : Heap) (nx : Ref) (v : HV) (hb : Below h f nx v) (hfin : Fin h f v)
    (r : Ref) (hr : nx ≤ r) (extra : List HV) :
    den (appendInPlace (deepcopy f h nx v).1 r extra) f v = den h f v :=
  copy_then_mutate_copy f h nx v hb hfin r hr extra

-- non-vacuity: Tree(0, [Tree(1, [tok])]) at addresses 0 and 1, copied to 2 and 3
example : (deepcopy 3 (fun r => if r = 0 then [HV.tree 1 1] else if r = 1 then [HV.tok 7 7] else []) 2 (HV.tree 0 0)).2 = (4, HV.tree 0 2) := by decide

end Props.C13
