/-! Decision logic of `LALR_Analyzer.compute_lalr1_states` (lark/parsers/lalr_analysis.py:267): from the shift edges of an
    LR(0) state and the rules attached to each lookahead, build the action row or report a reduce/reduce conflict. -/
namespace LALRTable

/-- a candidate reduction: (priority, rule id) -/
abbrev Cand := Int × Nat

/-- the rule that wins a lookahead: the candidate whose priority is strictly greater than every other candidate's.
    (The code sorts by priority and compares the two best: the same thing.) -/
def winner (cands : List Cand) : Option Cand :=
  cands.find? fun c => cands.all fun c' => c'.2 == c.2 || decide (c'.1 < c.1)

theorem beats_iff (cands : List Cand) (c : Cand) :
    (cands.all fun c' => c'.2 == c.2 || decide (c'.1 < c.1)) = true ↔ ∀ c' ∈ cands, c'.2 = c.2 ∨ c'.1 < c.1 := by
  simp only [List.all_eq_true, Bool.or_eq_true, beq_iff_eq, decide_eq_true_eq]

theorem winner_some {cands : List Cand} {c : Cand} (h : winner cands = some c) :
    c ∈ cands ∧ ∀ c' ∈ cands, c'.2 = c.2 ∨ c'.1 < c.1 := by
  unfold winner at h
  have hp := List.find?_some h
  exact ⟨List.mem_of_find?_eq_some h, (beats_iff cands c).mp hp⟩

/-- reduce/reduce conflict: no candidate strictly beats all the others -/
theorem winner_none_iff (cands : List Cand) :
    winner cands = none ↔ ∀ c ∈ cands, ∃ c' ∈ cands, c'.2 ≠ c.2 ∧ c.1 ≤ c'.1 := by
  simp only [winner, List.find?_eq_none, beats_iff, Classical.not_forall, not_or, Int.not_lt, exists_prop]

theorem winner_single (c : Cand) : winner [c] = some c := by
  simp [winner]

theorem eq_of_snd_eq {cands : List Cand} (hnd : (cands.map (·.2)).Nodup) {c d : Cand} (hc : c ∈ cands) (hd : d ∈ cands)
    (h : c.2 = d.2) : c = d :=
  have hp : cands.Pairwise fun a b => a.2 ≠ b.2 := List.pairwise_map.mp hnd
  List.Pairwise.forall_of_forall_of_flip (R := fun a b : Cand => a.2 = b.2 → a = b) (fun _ _ _ => rfl)
    (hp.imp fun hne h => absurd h hne) (hp.imp fun hne h => absurd h.symm hne) hc hd h

/-- the winner does not depend on the order in which the set of rules is iterated (hash order), when rule ids are distinct -/
theorem winner_unique {cands : List Cand} (hnd : (cands.map (·.2)).Nodup) {c d : Cand}
    (hc : c ∈ cands ∧ ∀ c' ∈ cands, c'.2 = c.2 ∨ c'.1 < c.1) (hd : d ∈ cands ∧ ∀ c' ∈ cands, c'.2 = d.2 ∨ c'.1 < d.1) : c = d :=
  -- each beats the other, so they are candidates for the same rule
  eq_of_snd_eq hnd hc.1 hd.1 <|
    (hd.2 c hc.1).elim id fun hlt => (hc.2 d hd.1).elim Eq.symm fun hlt' => absurd hlt (Int.lt_asymm hlt')

inductive Act where
  | shift (target : Nat)
  | reduce (rule : Nat)
deriving DecidableEq, Repr

structure RowIn where
  shifts : List (Nat × Nat)            -- (terminal, target state)
  las : List (Nat × List Cand)         -- (lookahead terminal, candidate rules)

/-- the reduce entries of one state: for each lookahead with a winner and without a shift -/
def reduceEntries (r : RowIn) : List (Nat × Act) :=
  r.las.filterMap fun (la, cands) =>
    match winner cands with
    | some c => if r.shifts.any (fun s => s.1 == la) then none else some (la, Act.reduce c.2)
    | none => none

/-- lookaheads of this state with an unresolved reduce/reduce conflict -/
def conflicts (r : RowIn) : List Nat :=
  r.las.filterMap fun (la, cands) => if cands.length > 1 && (winner cands).isNone then some la else none

def row (r : RowIn) : List (Nat × Act) := r.shifts.map (fun s => (s.1, Act.shift s.2)) ++ reduceEntries r

/-- the whole table, or `GrammarError` when some state has a conflict -/
def build (rows : List RowIn) : Option (List (List (Nat × Act))) :=
  if rows.any (fun r => !(conflicts r).isEmpty) then none else some (rows.map row)

theorem mem_reduceEntries {r : RowIn} {la : Nat} {a : Act} :
    (la, a) ∈ reduceEntries r ↔
      ∃ cands c, (la, cands) ∈ r.las ∧ winner cands = some c ∧ (∀ s ∈ r.shifts, s.1 ≠ la) ∧ a = Act.reduce c.2 := by
  rw [reduceEntries, List.mem_filterMap]
  constructor
  · rintro ⟨⟨la', cands⟩, hm, hx⟩
    dsimp only at hx
    split at hx
    · rename_i c hw
      obtain ⟨hs, ⟨⟩⟩ := Option.ite_none_left_eq_some.mp hx
      exact ⟨cands, c, hm, hw, fun s h he => hs (List.any_eq_true.mpr ⟨s, h, beq_iff_eq.mpr he⟩), rfl⟩
    · cases hx
  · rintro ⟨cands, c, hm, hw, hs, rfl⟩
    refine ⟨(la, cands), hm, ?_⟩
    dsimp only
    rw [hw]
    exact if_neg fun hany => let ⟨s, h, he⟩ := List.any_eq_true.mp hany; hs s h (beq_iff_eq.mp he)

theorem mem_conflicts {r : RowIn} {la : Nat} :
    la ∈ conflicts r ↔ ∃ cands, (la, cands) ∈ r.las ∧ cands.length > 1 ∧ winner cands = none := by
  rw [conflicts, List.mem_filterMap]
  constructor
  · rintro ⟨⟨la', cands⟩, hm, hx⟩
    obtain ⟨hc, ⟨⟩⟩ := Option.ite_none_right_eq_some.mp hx
    rw [Bool.and_eq_true, decide_eq_true_eq, Option.isNone_iff_eq_none] at hc
    exact ⟨cands, hm, hc⟩
  · rintro ⟨cands, hm, hlen, hw⟩
    exact ⟨(la, cands), hm, if_pos (Bool.and_eq_true_iff.mpr ⟨decide_eq_true hlen, Option.isNone_iff_eq_none.mpr hw⟩)⟩

theorem shift_wins (r : RowIn) (la : Nat) (a : Act) (h : (la, a) ∈ reduceEntries r) :
    ¬ ∃ q, (la, q) ∈ r.shifts := by
  obtain ⟨_, _, _, _, hs, _⟩ := mem_reduceEntries.mp h
  rintro ⟨q, hq⟩
  exact hs _ hq rfl

theorem build_error_iff (rows : List RowIn) :
    build rows = none ↔
      ∃ r ∈ rows, ∃ la cands, (la, cands) ∈ r.las ∧ cands.length > 1 ∧ winner cands = none := by
  simp only [build, ite_eq_left_iff, reduceCtorEq, imp_false, Classical.not_not, List.any_eq_true, Bool.not_eq_true',
    List.isEmpty_eq_false_iff_exists_mem, mem_conflicts]

end LALRTable
