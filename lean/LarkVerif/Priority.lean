namespace PrioProto

/-- a (tree-unfolded, hence acyclic) parse forest in first-order form:
    an OR node is a chain `orCons alt₁ (orCons alt₂ … orNil)` of packed alternatives;
    a packed node carries its rule's priority and 0, 1 or 2 children (earley_forest.py:110) -/
inductive AO where
  | leaf (w : Int)                    -- TokenNode with its terminal priority
  | orNil
  | orCons (alt : AO) (rest : AO)
  | and0 (w : Int)
  | and1 (w : Int) (c : AO)
  | and2 (w : Int) (l r : AO)

def optMax : Option Int → Option Int → Option Int
  | none, b => b
  | a, none => a
  | some a, some b => some (max a b)

def optAdd : Option Int → Option Int → Option Int
  | some a, some b => some (a + b)
  | _, _ => none

/-- `ForestSumVisitor` (earley_forest.py:445): packed = rule priority + children, symbol = max of alternatives -/
def prio : AO → Option Int
  | .leaf w => some w
  | .orNil => none
  | .orCons a rest => optMax (prio a) (prio rest)
  | .and0 w => some w
  | .and1 w c => optAdd (some w) (prio c)
  | .and2 w l r => optAdd (optAdd (some w) (prio l)) (prio r)

/-- total priorities of *all* derivations the forest encodes -/
def derivs : AO → List Int
  | .leaf w => [w]
  | .orNil => []
  | .orCons a rest => derivs a ++ derivs rest
  | .and0 w => [w]
  | .and1 w c => (derivs c).map (w + ·)
  | .and2 w l r => (derivs l).flatMap (fun x => (derivs r).map (fun y => w + x + y))

def best : List Int → Option Int
  | [] => none
  | x :: xs => optMax (some x) (best xs)

theorem optMax_none_right (a : Option Int) : optMax a none = a := by cases a <;> rfl
theorem optMax_assoc (a b c : Option Int) : optMax (optMax a b) c = optMax a (optMax b c) := by
  cases a <;> cases b <;> cases c <;> simp [optMax, Int.max_assoc]

theorem best_append (a b : List Int) : best (a ++ b) = optMax (best a) (best b) := by
  induction a with
  | nil => simp [best, optMax]
  | cons x a ih => simp only [List.cons_append, best, ih, optMax_assoc]

theorem optAdd_comm (a b : Option Int) : optAdd a b = optAdd b a := by
  cases a <;> cases b <;> simp [optAdd, Int.add_comm]

/-- absent values included: `none` absorbs under `optAdd` and is neutral under `optMax` -/
theorem optAdd_optMax_left (a b c : Option Int) : optAdd a (optMax b c) = optMax (optAdd a b) (optAdd a c) := by
  cases a <;> cases b <;> cases c <;> simp [optMax, optAdd, Int.max_add_left]

theorem optAdd_optMax_right (a b c : Option Int) : optAdd (optMax a b) c = optMax (optAdd a c) (optAdd b c) := by
  rw [optAdd_comm, optAdd_optMax_left, optAdd_comm c, optAdd_comm c]

theorem optAdd_optMax (a : Option Int) (b c : Option Int) (ha : a ≠ none) :
    optAdd a (optMax b c) = optMax (optAdd a b) (optAdd a c) := optAdd_optMax_left a b c

theorem best_map_add (w : Int) (l : List Int) : best (l.map (w + ·)) = optAdd (some w) (best l) := by
  induction l with
  | nil => rfl
  | cons x l ih => simp only [List.map_cons, best, ih, optAdd_optMax_left]; rfl

theorem best_product (w : Int) (l r : List Int) :
    best (l.flatMap (fun x => r.map (fun y => w + x + y))) = optAdd (optAdd (some w) (best l)) (best r) := by
  induction l with
  | nil => rfl
  | cons x l ih =>
    simp only [List.flatMap_cons, best_append, ih, best, optAdd_optMax_left, optAdd_optMax_right]
    rw [show (fun y => w + x + y) = ((w + x) + ·) from rfl, best_map_add]; rfl

/-- C05: the priority the forest walk assigns to a node is the maximum total priority over all derivations
    below it (`none` iff there is no derivation); under `priority='invert'` the weights are negated at load,
    so the same statement yields the minimum. -/
theorem prio_eq_best : ∀ t : AO, prio t = best (derivs t) := by
  intro t
  induction t with
  | leaf w => simp [prio, derivs, best, optMax]
  | orNil => rfl
  | orCons a rest iha ihr => simp only [prio, derivs, best_append, iha, ihr]
  | and0 w => simp [prio, derivs, best, optMax]
  | and1 w c ih => simp only [prio, derivs, best_map_add, ih]
  | and2 w l r ihl ihr => simp only [prio, derivs, best_product, ihl, ihr]

theorem best_ge {l : List Int} {x : Int} (hx : x ∈ l) : ∃ m, best l = some m ∧ x ≤ m := by
  induction l with
  | nil => cases hx
  | cons y l ih =>
    simp only [best]
    rcases List.mem_cons.mp hx with rfl | hx
    · cases best l with
      | none => exact ⟨x, rfl, Int.le_refl _⟩
      | some m => exact ⟨max x m, rfl, Int.le_max_left ..⟩
    · obtain ⟨m, hm, hle⟩ := ih hx
      rw [hm]
      exact ⟨max y m, rfl, Int.le_trans hle (Int.le_max_right ..)⟩

theorem resolve_optimal (t : AO) (x : Int) (hx : x ∈ derivs t) : ∃ m, prio t = some m ∧ x ≤ m := by
  rw [prio_eq_best]; exact best_ge hx

end PrioProto
