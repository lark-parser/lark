namespace ThProto

/-- what `self.callback` holds -/
inductive CB where
  | unset          -- attribute not assigned yet
  | partial_       -- the dict `_create_unless` returned, user `lexer_callbacks` not merged yet
  | full
deriving DecidableEq, Repr

structure Shared where
  scanner : Bool     -- `self._scanner is not None`
  cb : CB
deriving DecidableEq, Repr

/-- program counter of one thread executing `lexer.scanner` then lexing one token (lexer.py:657-705) -/
inductive PC where
  | start        -- about to read `self._scanner`
  | b1           -- inside `_build_scanner`, about to assign `self.callback`
  | b2           -- (original ordering only) about to merge the user callbacks into the shared dict
  | b3           -- about to assign `self._scanner`
  | use          -- about to read `self.callback` for a token whose type has a user callback
  | done
deriving DecidableEq, Repr

/-- one atomic step (one shared read or write). `fixed = true` is the publish-once ordering.
    The observation is `some b`: did the token get the user's callback? -/
def stepThread (fixed : Bool) (sh : Shared) : PC → Shared × PC × Option Bool
  | PC.start => (sh, if sh.scanner then PC.use else PC.b1, none)
  | PC.b1 => if fixed then ({ sh with cb := CB.full }, PC.b3, none) else ({ sh with cb := CB.partial_ }, PC.b2, none)
  | PC.b2 => ({ sh with cb := CB.full }, PC.b3, none)
  | PC.b3 => ({ sh with scanner := true }, PC.use, none)
  | PC.use => (sh, PC.done, some (sh.cb == CB.full))
  | PC.done => (sh, PC.done, none)

structure Sys where
  sh : Shared
  pcs : List PC
deriving Repr

/-- run a schedule: each entry names the thread that moves next -/
def run (fixed : Bool) : Sys → List Nat → List Bool
  | _, [] => []
  | s, i :: sched =>
    match s.pcs[i]? with
    | none => run fixed s sched
    | some pc =>
      let (sh', pc', obs) := stepThread fixed s.sh pc
      let rest := run fixed ⟨sh', s.pcs.set i pc'⟩ sched
      match obs with
      | some b => b :: rest
      | none => rest

def initSys (n : Nat) : Sys := ⟨⟨false, CB.unset⟩, List.replicate n PC.start⟩

/-- a thread that is past the assignment of `self.callback` sees the full dict -/
def PcOk (sh : Shared) (pc : PC) : Prop := pc = PC.b3 ∨ pc = PC.use → sh.cb = CB.full

/-- invariant of the publish-once ordering -/
def Inv (s : Sys) : Prop := (s.sh.scanner = true → s.sh.cb = CB.full) ∧ ∀ pc ∈ s.pcs, PcOk s.sh pc

/-- the third clause is for the threads that do not move: their `PcOk` only needs the shared dict, once full, to stay full -/
theorem stepThread_inv {sh sh' : Shared} {pc pc' : PC} {obs : Option Bool} (h : stepThread true sh pc = (sh', pc', obs))
    (hsc : sh.scanner = true → sh.cb = CB.full) (hpc : PcOk sh pc) :
    (sh'.scanner = true → sh'.cb = CB.full) ∧ PcOk sh' pc' ∧ (sh.cb = CB.full → sh'.cb = CB.full) ∧ ∀ b, obs = some b → b = true := by
  cases pc with
  | start =>
    cases h
    refine ⟨hsc, ?_, id, nofun⟩
    by_cases hs : sh.scanner = true
    · exact fun _ => hsc hs
    · simp [PcOk, hs]
  | b1 => cases h; exact ⟨fun _ => rfl, fun _ => rfl, fun _ => rfl, nofun⟩
  | b2 => cases h; exact ⟨fun _ => rfl, fun _ => rfl, fun _ => rfl, nofun⟩
  | b3 => cases h; exact ⟨fun _ => hpc (.inl rfl), fun _ => hpc (.inl rfl), id, nofun⟩
  | use =>
    cases h
    refine ⟨hsc, by simp [PcOk], id, fun b hb => ?_⟩
    cases hb; simp [hpc (.inr rfl)]
  | done => cases h; exact ⟨hsc, by simp [PcOk], id, nofun⟩

theorem Inv.step {s : Sys} {i : Nat} {pc pc' : PC} {sh' : Shared} {obs : Option Bool} (hinv : Inv s) (hpc : s.pcs[i]? = some pc)
    (hst : stepThread true s.sh pc = (sh', pc', obs)) : Inv ⟨sh', s.pcs.set i pc'⟩ ∧ ∀ b, obs = some b → b = true := by
  obtain ⟨g1, g2, g3, g4⟩ := stepThread_inv hst hinv.1 (hinv.2 pc (List.mem_of_getElem? hpc))
  exact ⟨⟨g1, fun x hx => (List.mem_or_eq_of_mem_set hx).elim (fun hm hx' => g3 (hinv.2 x hm hx')) (fun he => he ▸ g2)⟩, g4⟩

theorem run_fixed_safe {s : Sys} (hinv : Inv s) (sched : List Nat) : ∀ b ∈ run true s sched, b = true := by
  intro b hb
  fun_induction run true s sched with
  | case1 => cases hb
  | case2 s i sched hpc ih => exact ih hinv hb
  | case3 s i sched pc hpc sh' pc' rest o hst ih =>
    rcases List.mem_cons.mp hb with rfl | hb
    · exact (hinv.step hpc hst).2 _ rfl
    · exact ih (hinv.step hpc hst).1 hb
  | case4 s i sched pc hpc sh' pc' rest hst ih => exact ih (hinv.step hpc hst).1 hb

/-- C10, repaired ordering: for any number of threads and any schedule, every token gets the user's callback -/
theorem interleaving_safe (n : Nat) (sched : List Nat) : ∀ b ∈ run true (initSys n) sched, b = true := by
  refine run_fixed_safe ⟨by simp [initSys], fun pc hpc => ?_⟩ sched
  cases (List.mem_replicate.mp hpc).2
  simp [PcOk]

/-- C10, original ordering (F13): two threads, a legal schedule, and a token that skips the callback.
    Thread 1 reads `_scanner is None`; thread 0 builds completely; thread 1 assigns the partial dict;
    thread 0 lexes. -/
theorem interleaving_unsafe_original :
    run false (initSys 2) [1, 0, 0, 0, 0, 1, 0] = [false] := by decide

end ThProto
