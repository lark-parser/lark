import LarkVerif.Basic
import LarkVerif.Cache
import LarkVerif.Choice
import LarkVerif.Earley
import LarkVerif.EarleyExec
import LarkVerif.EarleyExpected
import LarkVerif.Extracted
import LarkVerif.FirstSets
import LarkVerif.Forest
import LarkVerif.ForestVisit
import LarkVerif.ForestCert
import LarkVerif.Heap
import LarkVerif.DeepCopy
import LarkVerif.Indenter
import LarkVerif.IterSubtrees
import LarkVerif.Instance
import LarkVerif.IndenterRef
import LarkVerif.LALRTable
import LarkVerif.LR
import LarkVerif.LR0
import LarkVerif.LR0Viable
import LarkVerif.LRViable
import LarkVerif.LRCheck
import LarkVerif.LRClosedCheck
import LarkVerif.LRComplete
import LarkVerif.LRError
import LarkVerif.LexEmit
import LarkVerif.LexCtxTiling
import LarkVerif.LexFast
import LarkVerif.LexModel
import LarkVerif.LexOrder
import LarkVerif.LexTiling
import LarkVerif.Lexer
import LarkVerif.LineCounter
import LarkVerif.Mangle
import LarkVerif.Positions
import LarkVerif.Priority
import LarkVerif.Prune
import LarkVerif.Recons
import LarkVerif.Rename
import LarkVerif.Repeat
import LarkVerif.RuleSize
import LarkVerif.Saturate
import LarkVerif.Scan
import LarkVerif.Serialize
import LarkVerif.TableSer
import LarkVerif.Shape
import LarkVerif.Threads
import LarkVerif.Transform
import LarkVerif.TransformEmbed
import LarkVerif.TransformInPlace
import LarkVerif.Props.C01
import LarkVerif.Props.C02
import LarkVerif.Props.C03
import LarkVerif.Props.C04
import LarkVerif.Props.C05
import LarkVerif.Props.C06
import LarkVerif.Props.C07
import LarkVerif.Props.C08
import LarkVerif.Props.C09
import LarkVerif.Props.C10
import LarkVerif.Props.C11
import LarkVerif.Props.C12
import LarkVerif.Props.C13
import LarkVerif.Props.C14
import LarkVerif.Props.C15
import LarkVerif.Props.C16
import LarkVerif.Props.C17
import LarkVerif.Props.C18
import LarkVerif.Props.C19
import LarkVerif.Props.C20
