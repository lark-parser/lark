namespace LexProto

/-- the regex engine as a parameter: preferred match length of terminal `t` at `pos` (positive) -/
abbrev Matcher := Nat → Nat → Option Nat

/-- lark/lexer.py:427 Scanner.match over the sorted terminal list: the first terminal that matches wins,
    with its own preferred length (chunking of the alternation is irrelevant, see `firstMatch_append`) -/
def firstMatch (m : Matcher) (pos : Nat) : List Nat → Option (Nat × Nat)
  | [] => none
  | t :: ts => match m t pos with
    | some len => some (t, len)
    | none => firstMatch m pos ts

theorem firstMatch_eq_findSome? (m : Matcher) (pos : Nat) (ts : List Nat) :
    firstMatch m pos ts = ts.findSome? fun t => (m t pos).map (t, ·) := by
  induction ts with
  | nil => rfl
  | cons t ts ih =>
    rw [firstMatch, List.findSome?_cons, ih]
    cases m t pos <;> rfl

/-- trying chunk after chunk is the same as trying the whole list (lexer.py:409 `_build_mres`) -/
theorem firstMatch_append (m : Matcher) (pos : Nat) (a b : List Nat) :
    firstMatch m pos (a ++ b) = (firstMatch m pos a).or (firstMatch m pos b) := by
  simp only [firstMatch_eq_findSome?, List.findSome?_append]

theorem firstMatch_some {m : Matcher} {pos : Nat} {ts : List Nat} {t len : Nat}
    (h : firstMatch m pos ts = some (t, len)) : t ∈ ts ∧ m t pos = some len := by
  rw [firstMatch_eq_findSome?] at h
  obtain ⟨x, hx, hm⟩ := List.exists_of_findSome?_eq_some h
  obtain ⟨l, hl, heq⟩ := Option.map_eq_some_iff.mp hm
  cases heq
  exact ⟨hx, hl⟩

/-- the loops step by `pos + max len 1`; for a matcher that only reports non-empty matches inside the text that is `pos + len`, still inside -/
theorem firstMatch_bounds {m : Matcher} {n pos : Nat} {ts : List Nat} {t len : Nat}
    (hpos : ∀ t p len, m t p = some len → 0 < len ∧ p + len ≤ n) (h : firstMatch m pos ts = some (t, len)) :
    0 < len ∧ pos + len ≤ n ∧ max len 1 = len := by
  obtain ⟨h0, hle⟩ := hpos t pos len (firstMatch_some h).2
  exact ⟨h0, hle, Nat.max_eq_left h0⟩

/-- `n - pos ≤ f`: fuel `f` suffices for the characters from `pos`; every loop below runs under this bound -/
theorem fuel_step {n pos len f : Nat} (hl : 0 < len) (hf : n - pos ≤ f + 1) : n - (pos + len) ≤ f := by
  rw [Nat.sub_add_eq]
  exact Nat.sub_le_of_le_add (Nat.le_trans hf (Nat.add_le_add_left hl f))

theorem fuel_zero {n pos : Nat} (hf : n - pos ≤ 0) : ¬ pos < n :=
  fun h => Nat.not_lt.mpr hf (Nat.sub_pos_of_lt h)

theorem fuel_mono {n pos p f : Nat} (h : pos ≤ p) (hf : n - pos ≤ f) : n - p ≤ f :=
  Nat.le_trans (Nat.sub_le_sub_left h n) hf

/-- Contextual refines basic (lexer.py:729 `ContextualLexer`): restricting the search to a sub-list of the sorted terminals
    (terminal names are unique, common.py:46) that still contains the winner does not change the winner. -/
theorem firstMatch_sublist {m : Matcher} {pos : Nat} {ts ts' : List Nat} (hsub : List.Sublist ts' ts)
    (hnd : ts.Nodup) {t len : Nat} (h : firstMatch m pos ts = some (t, len)) (hmem : t ∈ ts') :
    firstMatch m pos ts' = some (t, len) := by
  induction hsub with
  | slnil => cases hmem
  | cons x hs ih =>
    simp only [firstMatch] at h
    have hnd' := List.nodup_cons.mp hnd
    split at h
    · rename_i l hl
      simp at h; obtain ⟨rfl, rfl⟩ := h
      exact absurd (hs.subset hmem) hnd'.1
    · exact ih hnd'.2 h hmem
  | cons_cons x hs ih =>
    have hnd' := List.nodup_cons.mp hnd
    simp only [firstMatch] at h ⊢
    split at h
    · exact h
    · rename_i hn
      rcases List.mem_cons.mp hmem with rfl | hm
      · have := (firstMatch_some h).2; rw [hn] at this; cases this
      · exact ih hnd'.2 h hm

/-- one emitted or ignored token: (terminal, start, length) -/
abbrev Piece := Nat × Nat × Nat

/-- lark/lexer.py:687 next_token iterated to the end of the text, with fuel = remaining characters -/
def lexAll (m : Matcher) (ts : List Nat) (n : Nat) : Nat → Nat → List Piece × Option Nat
  | 0, pos => ([], if pos < n then some pos else none)
  | fuel+1, pos =>
    if pos < n then
      match firstMatch m pos ts with
      | none => ([], some pos)                       -- UnexpectedCharacters at `pos`
      | some (t, len) =>
        let (ps, e) := lexAll m ts n fuel (pos + max len 1)
        ((t, pos, len) :: ps, e)
    else ([], none)

/-- consecutive pieces starting at `pos` and ending at `stop` -/
inductive Tiles : Nat → List Piece → Nat → Prop
  | nil (p) : Tiles p [] p
  | cons (t p len ps q) : 0 < len → Tiles (p + len) ps q → Tiles p ((t, p, len) :: ps) q

/-- The lexer tiles the input: consecutive, non-empty pieces, each the first match in order at its start,
    covering the text up to its end or up to the reported error position. -/
theorem lexAll_tiles (m : Matcher) (ts : List Nat) (n : Nat) (hpos : ∀ t p len, m t p = some len → 0 < len ∧ p + len ≤ n) :
    ∀ fuel pos, pos ≤ n → n - pos ≤ fuel →
      ∃ stop, Tiles pos (lexAll m ts n fuel pos).1 stop ∧
        (∀ pc ∈ (lexAll m ts n fuel pos).1, firstMatch m pc.2.1 ts = some (pc.1, pc.2.2)) ∧
        ((lexAll m ts n fuel pos).2 = none → stop = n) ∧
        (∀ e, (lexAll m ts n fuel pos).2 = some e → stop = e ∧ e < n ∧ firstMatch m e ts = none) := by
  intro fuel pos h1 h2
  fun_induction lexAll m ts n fuel pos with
  | case1 pos =>
    have hlt : ¬ pos < n := fuel_zero h2
    exact ⟨pos, Tiles.nil _, by simp, fun _ => Nat.le_antisymm h1 (Nat.le_of_not_lt hlt), by simp [hlt]⟩
  | case2 fuel pos hlt hfm => exact ⟨pos, Tiles.nil _, by simp, by simp, by simp [hlt, hfm]⟩
  | case3 fuel pos hlt t len hfm ps e hrec ih =>
    obtain ⟨hl0, hle, hmax⟩ := firstMatch_bounds hpos hfm
    rw [hmax] at hrec ih
    rw [hrec] at ih
    obtain ⟨stop, htiles, hfirst, hend⟩ := ih hle (fuel_step hl0 h2)
    exact ⟨stop, Tiles.cons t pos len _ stop hl0 htiles, List.forall_mem_cons.mpr ⟨hfm, hfirst⟩, hend⟩
  | case4 fuel pos hlt => exact ⟨pos, Tiles.nil _, by simp, fun _ => Nat.le_antisymm h1 (Nat.le_of_not_lt hlt), by simp⟩

end LexProto
