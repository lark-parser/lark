import LarkVerif.Shape
/-! C16, first half: an embedded transformer (callbacks spliced into the tree-building chain, `ParseTreeBuilder.create_callback`, token callbacks at
    shift) computes exactly what transforming the finished tree computes (`Transformer.transform`), provided no callback sits on an inlined rule. -/
namespace EmbedProto
open ShapeProto

variable (f : Nat → List Val → Val) (g : Nat → Nat → Val)

mutual
/-- lark/visitors.py `Transformer._transform_tree`: children first, then the node's callback; tokens through the token callback -/
def trV : Val → Val
  | .tok ty v => g ty v
  | .none => .none
  | .tree d ks => f d (trVs ks)
def trVs : List Val → List Val
  | [] => []
  | k :: ks => trV k :: trVs ks
end

theorem trVs_eq_map (l : List Val) : trVs f g l = l.map (trV f g) := by
  induction l with
  | nil => rfl
  | cons x l ih => rw [trVs, ih, List.map_cons]

theorem trVs_append (a b : List Val) : trVs f g (a ++ b) = trVs f g a ++ trVs f g b := by
  simp only [trVs_eq_map, List.map_append]

theorem trVs_replicate_none (n : Nat) : trVs f g (List.replicate n Val.none) = List.replicate n Val.none := by
  rw [trVs_eq_map, List.map_replicate, trV]

theorem trVs_length (l : List Val) : (trVs f g l).length = l.length := by
  rw [trVs_eq_map, List.length_map]

/-- the embedded chain for one rule: inlined rules keep the plain tree builder; otherwise `ExpandSingleChild` wraps the user callback -/
def finishWith (isInline expand1 : Bool) (alias : Option Nat) (name : Nat) (kids : List Val) : Val :=
  if isInline then finish expand1 alias name kids
  else match expand1, alias, kids with
    | true, Option.none, [k] => k
    | _, some a, _ => f a kids
    | _, Option.none, _ => f name kids

/-- the parser drivers with an embedded transformer: token callbacks at shift, rule callbacks at reduce -/
def buildListT : D → List (SymInfo × Val)
  | .nil => []
  | .leaf s ty v rest => (s, g ty v) :: buildListT rest
  | .node s r kids rest =>
      (s, finishWith f (toExpand s) r.expand1 r.alias r.name (applyPlan r.keepAll (runs r.markers) (buildListT kids) 0)) :: buildListT rest

/-- inlined rules are not `?` rules (a collapsed inlined rule would have no children to splice) -/
def D.Plain : D → Prop
  | .nil => True
  | .leaf s _ _ rest => s.isTerm = true ∧ D.Plain rest
  | .node s r kids rest => s.isTerm = false ∧ (toExpand s = true → r.expand1 = false) ∧ D.Plain kids ∧ D.Plain rest

/-- what the embedded build holds where the plain build holds `v` for the symbol `s`: the transformed value — except for an inlined rule, whose
    node only carries its children to the parent, so that only they are transformed -/
def emb (s : SymInfo) (v : Val) : Val :=
  if toExpand s then (match v with | .tree d ks => .tree d (trVs f g ks) | v => v) else trV f g v

/-- what a child contributes to its parent's children list is transformed -/
theorem contrib_emb (s : SymInfo) (v : Val) :
    (if toExpand s then kidsOf (emb f g s v) else [emb f g s v]) = trVs f g (if toExpand s then kidsOf v else [v]) := by
  unfold emb
  cases toExpand s with
  | true => cases v <;> rfl
  | false => rfl

/-- the embedded chain applied to transformed children is `emb` of what the plain chain builds: `ExpandSingleChild` looks only at the number of
    children, which `trVs` keeps; an inlined rule keeps the plain builder -/
theorem finishWith_emb (s : SymInfo) (e1 : Bool) (alias : Option Nat) (name : Nat) (ks : List Val) (h : toExpand s = true → e1 = false) :
    finishWith f (toExpand s) e1 alias name (trVs f g ks) = emb f g s (finish e1 alias name ks) := by
  unfold emb
  cases he : toExpand s with
  | true => cases h he; cases alias <;> rfl
  | false =>
    match e1, alias, ks with
    | false, none, _ | false, some _, _ | true, some _, _ => rfl
    | true, none, [] | true, none, [_] | true, none, _ :: _ :: _ => rfl

/-- the `ChildFilter` plan commutes with the transformation -/
theorem applyPlan_rel (keepAll : Bool) (rs : List Nat) (cs : List (SymInfo × Val)) (acc : Nat) :
    applyPlan keepAll rs (cs.map fun x => (x.1, emb f g x.1 x.2)) acc = trVs f g (applyPlan keepAll rs cs acc) := by
  fun_induction applyPlan keepAll rs cs acc with
  | case1 r rs s c cs acc hi ih =>
    simp only [List.map_cons, applyPlan, hi, if_true, ih, trVs_append, trVs_replicate_none, contrib_emb]
  | case2 r rs s c cs acc hi ih => simp only [List.map_cons, applyPlan, hi, ih]; rfl
  | case3 r _ acc => simp only [List.map_nil, applyPlan, trVs_replicate_none]
  | case4 cs acc => simp only [applyPlan, trVs_replicate_none]

/-- **C16 (embedded = after).** Position by position, the embedded build is `emb` of the plain build. -/
theorem buildListT_rel : ∀ d : D, D.Plain d → buildListT f g d = (buildList d).map fun x => (x.1, emb f g x.1 x.2) := by
  intro d
  induction d with
  | nil => intro _; rfl
  | leaf s ty v rest ih =>
    intro h
    have he : toExpand s = false := by simp [toExpand, h.1]
    simp only [buildListT, buildList, List.map_cons, ih h.2, emb, he, trV, Bool.false_eq_true, if_false]
  | node s r kids rest ihk ihr =>
    intro ⟨_, hexp, hk, hrest⟩
    simp only [buildListT, buildList, List.map_cons, ihr hrest, ihk hk, applyPlan_rel, finishWith_emb f g s _ _ _ _ hexp]

/-- the result for the start rule (never inlined): embedded = transform-after -/
theorem embedded_eq_after (s : SymInfo) (r : RuleInfo) (kids : D) (hs : toExpand s = false) (h : D.Plain (.node s r kids .nil)) :
    (buildListT f g (.node s r kids .nil)).map (·.2) = (buildList (.node s r kids .nil)).map (fun x => trV f g x.2) := by
  rw [buildListT_rel f g _ h]
  simp only [buildList, List.map_cons, List.map_nil, emb, hs, Bool.false_eq_true, if_false]

end EmbedProto
