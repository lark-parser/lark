import LarkVerif.Rename
/-! `_get_mangle` (lark/load_grammar.py:1037): how the names of an imported module's definitions are rewritten, and why that is a renaming
    under which the language is invariant (`Rename.lean`). Names are lists of characters. -/
namespace MangleProto

abbrev Name := List Char

def sep : Name := ['_', '_']

/-- the non-aliased branch: `'_%s__%s' % (prefix, s[1:])` if `s[0] == '_'` else `'%s__%s' % (prefix, s)` -/
def core (pre s : Name) : Name :=
  if s.head? = some '_' then '_' :: (pre ++ sep ++ s.tail) else pre ++ sep ++ s

/-- load_grammar.py:1038 `mangle` (without `base_mangle`) -/
def mangle (pre : Name) (aliases : List (Name × Name)) (s : Name) : Name :=
  match aliases.lookup s with
  | some a => a
  | none => core pre s

/-- the composition used for nested imports -/
def mangle2 (base : Name → Name) (pre : Name) (aliases : List (Name × Name)) (s : Name) : Name := base (mangle pre aliases s)

theorem head_tail {s : Name} (h : s.head? = some '_') : s = '_' :: s.tail := by
  cases s with
  | nil => cases h
  | cons x xs => cases h; rfl

/-- mangling keeps the leading-underscore status of a name: the prefix does not begin with an underscore -/
theorem core_head (pre : Name) (hpre : pre.head? ≠ some '_') (hne : pre ≠ []) (s : Name) :
    (core pre s).head? = some '_' ↔ s.head? = some '_' := by
  unfold core
  split
  next h => exact iff_of_true rfl h
  next h =>
    cases pre with
    | nil => exact absurd rfl hne
    | cons c pr => exact iff_of_false hpre h

/-- names of the same underscore status get the same string put in front, which cancels; names of different status are told apart by `core_head` -/
theorem core_injective (pre : Name) (hpre : pre.head? ≠ some '_') (hne : pre ≠ []) (s t : Name) (h : core pre s = core pre t) : s = t := by
  have hst : s.head? = some '_' ↔ t.head? = some '_' := by rw [← core_head pre hpre hne, h, core_head pre hpre hne]
  unfold core at h
  by_cases hs : s.head? = some '_'
  · rw [if_pos hs, if_pos (hst.mp hs)] at h
    rw [head_tail hs, head_tail (hst.mp hs), List.append_cancel_left (List.cons.inj h).2]
  · rw [if_neg hs, if_neg (mt hst.mpr hs)] at h
    exact List.append_cancel_left h

/-- **Injectivity** on the names that are not explicitly aliased, for a module prefix that does not itself begin with an underscore. -/
theorem mangle_injective (pre : Name) (aliases : List (Name × Name)) (hpre : pre.head? ≠ some '_') (hne : pre ≠ [])
    (s t : Name) (hs : aliases.lookup s = none) (ht : aliases.lookup t = none)
    (h : mangle pre aliases s = mangle pre aliases t) : s = t := by
  simp only [mangle, hs, ht] at h
  exact core_injective pre hpre hne s t h

/-- an inlined (underscore) rule stays inlined and a visible rule stays visible: mangling preserves the leading-underscore status -/
theorem mangle_keeps_underscore (pre : Name) (aliases : List (Name × Name)) (hpre : pre.head? ≠ some '_') (hne : pre ≠ [])
    (s : Name) (hs : aliases.lookup s = none) :
    ((mangle pre aliases s).head? = some '_') ↔ (s.head? = some '_') := by
  simp only [mangle, hs]
  exact core_head pre hpre hne s

/-- aliased names are sent exactly to their alias -/
theorem mangle_alias (pre : Name) (aliases : List (Name × Name)) (s a : Name) (h : aliases.lookup s = some a) : mangle pre aliases s = a := by
  simp [mangle, h]

end MangleProto
