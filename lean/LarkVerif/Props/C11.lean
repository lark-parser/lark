import LarkVerif.Serialize
import LarkVerif.Extracted
import LarkVerif.TableSer
/-! # C11 — saved, cached and stand-alone parsers behave like the original (serialisation core) -/
namespace Props.C11
open SerProto

/-- the field-wise serialisation round trip is the identity on every value that contains no frozenset … -/
theorem roundtrip_identity {v : PV} (h : NoFset v) : deser (ser v) = v := roundtrip_of_noFset h

/-- … and is *not* the identity on a frozenset (it comes back as a list): every frozenset-valued field needs a restoring hook -/
theorem frozenset_not_restored (l : List PV) : deser (ser (.fset l)) = .list (l.map deser) ∧ deser (ser (.fset l)) ≠ .fset l := roundtrip_fset l

/-- with the hook (`Pattern._deserialize`, the repair of finding F3) the flags come back as the same frozenset -/
theorem flags_roundtrip_with_hook (flags : List String) : restoreFlags (deser (ser (.fset (flags.map .str)))) = .fset (flags.map .str) :=
  roundtrip_flags_fixed flags

/-- the fields the lexer/parser behaviour reads are all in the serialised field lists of the current source (extracted on every run) -/
theorem behaviour_fields_serialised :
    (Extracted.serializeFields.lookup "PatternStr" = some ["value", "flags", "raw"]) ∧
    (Extracted.serializeFields.lookup "PatternRE" = some ["value", "flags", "raw", "_width"]) ∧
    (Extracted.serializeFields.lookup "TerminalDef" = some ["name", "pattern", "priority"]) ∧
    (Extracted.serializeFields.lookup "Terminal" = some ["name", "filter_out"]) ∧
    (Extracted.serializeFields.lookup "NonTerminal" = some ["name"]) ∧
    (Extracted.serializeFields.lookup "RuleOptions" = some ["keep_all_tokens", "expand1", "priority", "template_source", "empty_indices"]) ∧
    (Extracted.serializeFields.lookup "Rule" = some ["origin", "expansion", "order", "alias", "options"]) ∧
    (Extracted.serializeFields.lookup "LexerConf" = some ["terminals", "ignore", "g_regex_flags", "use_bytes", "lexer_type"]) ∧
    (Extracted.serializeFields.lookup "ParserConf" = some ["rules", "start", "parser_type"]) := by
  -- rewriting, not `decide`: `simp` tells two literals apart from one differing character, the kernel's `String.decEq` encodes both to UTF-8 first
  simp only [Extracted.serializeFields, List.lookup, String.reduceBEq, and_self]

/-- options that may be changed at load time are real options, and none of them is structural (they do not change how the grammar is compiled) -/
theorem load_allowed_are_options : Extracted.loadAllowedOptions.all (fun o => Extracted.optionDefaults.contains o) = true := by
  -- as membership: each occurs literally among the defaults, so no string comparison is evaluated
  simp only [List.all_eq_true, List.contains_iff_mem, Extracted.loadAllowedOptions, Extracted.optionDefaults, List.mem_cons, List.not_mem_nil,
    forall_eq_or_imp, or_false, true_or, or_true, forall_eq, and_self]
theorem structural_options_not_load_allowed :
    (["parser", "lexer", "start", "keep_all_tokens", "maybe_placeholders", "priority", "ambiguity", "import_paths", "strict"].all
      (fun o => !Extracted.loadAllowedOptions.contains o)) = true := by
  simp only [List.all_eq_true, Bool.not_eq_true', List.contains_eq_mem, decide_eq_false_iff_not, Extracted.loadAllowedOptions, List.mem_cons,
    List.not_mem_nil, forall_eq_or_imp, or_false, String.reduceEq, forall_eq, and_self, not_false_eq_true]

/-- **The parse table survives its own re-encoding, whatever the table**: `ParseTableBase.serialize` renames every row key through an `Enumerator`
    (first-seen numbering) and `deserialize` looks the numbers up again; for every table — any states, any keys in any order, any actions — the result is
    the table itself, row order and key order included.  (The real `serialize` output is compared with `TableSer.serialize` on every generated grammar.) -/
theorem parse_table_reencoding_roundtrip (T : TableSer.Table) : TableSer.deserialize (TableSer.serialize T) = some T := TableSer.roundtrip T

end Props.C11
