/-! Lexicographic comparison by tiers, as a Boolean `≤`: the shape of both sort keys in lark that the development reasons about, the terminal order
    of the lexer (lexer.py:629, `LexModel.termLe`) and the order of the packed nodes of a symbol node (`ChoiceProto.keyLe`). -/
namespace LexModel

/-- lexicographic tier: a strictly greater key wins; equal keys fall through to `le2` -/
def lexBy {α : Type} (k : α → Int) (le2 : α → α → Bool) (a b : α) : Bool :=
  if k a = k b then le2 a b else decide (k a > k b)

variable {α : Type} {k : α → Int} {le2 : α → α → Bool}

theorem lexBy_iff {a b : α} : lexBy k le2 a b = true ↔ k b < k a ∨ (k a = k b ∧ le2 a b = true) := by
  unfold lexBy
  by_cases e : k a = k b
  · rw [if_pos e]
    exact ⟨fun h => .inr ⟨e, h⟩, fun h => h.elim (fun hlt => absurd (e ▸ hlt) (Int.lt_irrefl _)) (·.2)⟩
  · rw [if_neg e, decide_eq_true_iff]
    exact ⟨.inl, fun h => h.elim id (fun h => absurd h.1 e)⟩

theorem lexBy_trans (ht : ∀ a b c, le2 a b = true → le2 b c = true → le2 a c = true) :
    ∀ a b c, lexBy k le2 a b = true → lexBy k le2 b c = true → lexBy k le2 a c = true := by
  intro a b c h1 h2
  rw [lexBy_iff] at *
  rcases h1 with h1 | ⟨e1, h1⟩ <;> rcases h2 with h2 | ⟨e2, h2⟩
  · exact .inl (Int.lt_trans h2 h1)
  · exact .inl (e2 ▸ h1)
  · exact .inl (e1 ▸ h2)
  · exact .inr ⟨e1.trans e2, ht a b c h1 h2⟩

theorem lexBy_total (ht : ∀ a b, (le2 a b || le2 b a) = true) : ∀ a b, (lexBy k le2 a b || lexBy k le2 b a) = true := by
  intro a b
  rw [Bool.or_eq_true, lexBy_iff, lexBy_iff]
  rcases Int.lt_trichotomy (k a) (k b) with h | h | h
  · exact .inr (.inl h)
  · exact (Bool.or_eq_true _ _ ▸ ht a b).imp (fun h' => .inr ⟨h, h'⟩) (fun h' => .inr ⟨h.symm, h'⟩)
  · exact .inl (.inl h)

end LexModel
