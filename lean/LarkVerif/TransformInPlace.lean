import LarkVerif.Transform
/-! C16: `Transformer_InPlace` (lark/visitors.py:274).  It walks `tree.iter_subtrees()` and replaces, for each subtree, the children list by the
    transformed children, calling the callback of a child subtree on that child's *current* (already replaced) children; finally it calls the root's
    callback.  The model abstracts the walk as any sequence of such steps in which a node is processed only after its child subtrees (what
    `iter_subtrees` guarantees and the correspondence observes); the theorem: whatever the order, the result is the recursive transformer's. -/
namespace TrProto

variable {V : Type}

/-- a forest in the middle of an in-place run: `done = some vs` when the node's children list has been replaced by the values `vs` -/
inductive MF (V : Type) where
  | nil
  | leaf (tok : Nat) (rest : MF V)
  | node (data : Nat) (done : Option (List V)) (kids : MF V) (rest : MF V)

/-- the tree before the run -/
def MF.ofForest : Forest → MF V
  | .nil => .nil
  | .leaf t rest => .leaf t (MF.ofForest rest)
  | .node d kids rest => .node d none (MF.ofForest kids) (MF.ofForest rest)

/-- `_transform_children` on a children list whose subtrees have all been processed: callbacks on the replaced children lists; `none` if one has not -/
def MF.vals (f : Nat → List V → V) (g : Nat → V) : MF V → Option (List V)
  | .nil => some []
  | .leaf t rest => (MF.vals f g rest).map (g t :: ·)
  | .node d (some vs) _ rest => (MF.vals f g rest).map (f d vs :: ·)
  | .node _ none _ _ => none

/-- one step of the walk: some not yet processed node all of whose child subtrees are processed gets its children list replaced -/
inductive Step (f : Nat → List V → V) (g : Nat → V) : MF V → MF V → Prop
  | here (d kids rest vs) : MF.vals f g kids = some vs → Step f g (.node d none kids rest) (.node d (some vs) kids rest)
  | inKids (d o kids kids' rest) : Step f g kids kids' → Step f g (.node d o kids rest) (.node d o kids' rest)
  | inRestN (d o kids rest rest') : Step f g rest rest' → Step f g (.node d o kids rest) (.node d o kids rest')
  | inRestL (t rest rest') : Step f g rest rest' → Step f g (.leaf t rest) (.leaf t rest')

inductive Steps (f : Nat → List V → V) (g : Nat → V) : MF V → MF V → Prop
  | refl (m) : Steps f g m m
  | step (a b c) : Step f g a b → Steps f g b c → Steps f g a c

/-- the invariant of the walk: `m` is the forest `F` in which some children lists have been replaced, each by the recursive transformer's
    values of the original children -/
inductive Tracks (f : Nat → List V → V) (g : Nat → V) : Forest → MF V → Prop
  | nil : Tracks f g .nil .nil
  | leaf (t) {F m} : Tracks f g F m → Tracks f g (.leaf t F) (.leaf t m)
  | node (d o) {ks km F m} : (∀ vs, o = some vs → vs = tr f g ks) → Tracks f g ks km → Tracks f g F m →
      Tracks f g (.node d ks F) (.node d o km m)

theorem Tracks.ofForest (f : Nat → List V → V) (g : Nat → V) (F : Forest) : Tracks f g F (MF.ofForest F) := by
  induction F with
  | nil => exact .nil
  | leaf t rest ih => exact .leaf t ih
  | node d kids rest ihk ihr => exact .node d none (fun _ h => nomatch h) ihk ihr

/-- once every top-level node is processed, `_transform_children` returns the recursive transformer's values -/
theorem Tracks.vals {f : Nat → List V → V} {g : Nat → V} {F : Forest} {m : MF V} (h : Tracks f g F m) :
    ∀ {vs}, MF.vals f g m = some vs → vs = tr f g F := by
  induction h with
  | nil => intro vs h; cases h; rfl
  | leaf t _ ih =>
    intro vs h
    obtain ⟨vr, hr, rfl⟩ := Option.map_eq_some_iff.mp h
    rw [tr, ih hr]
  | node d o ho _ _ _ ih =>
    intro vs h
    cases o with
    | none => cases h
    | some vk =>
      obtain ⟨vr, hr, rfl⟩ := Option.map_eq_some_iff.mp h
      rw [tr, ← ho vk rfl, ih hr]

theorem Tracks.step {f : Nat → List V → V} {g : Nat → V} {a b : MF V} (h : Step f g a b) :
    ∀ {F}, Tracks f g F a → Tracks f g F b := by
  induction h with
  | here d kids rest vs hv =>
    intro F hT
    cases hT with | node _ _ _ hk hr => exact .node d _ (fun _ e => by cases e; exact hk.vals hv) hk hr
  | inKids d o kids kids' rest _ ih =>
    intro F hT
    cases hT with | node _ _ ho hk hr => exact .node d o ho (ih hk) hr
  | inRestN d o kids rest rest' _ ih =>
    intro F hT
    cases hT with | node _ _ ho hk hr => exact .node d o ho hk (ih hr)
  | inRestL t rest rest' _ ih =>
    intro F hT
    cases hT with | leaf _ hr => exact .leaf t (ih hr)

theorem Tracks.steps {f : Nat → List V → V} {g : Nat → V} {a b : MF V} {F : Forest} (h : Steps f g a b) (hT : Tracks f g F a) :
    Tracks f g F b := by
  induction h with
  | refl => exact hT
  | step _ _ _ hs _ ih => exact ih (hT.step hs)

/-- **`Transformer_InPlace` = `Transformer`.** Start from the tree `node d kids`; let the walk replace children lists in any order that processes a
    node after its child subtrees; when the root's list has been replaced by `vs`, the final `_transform_tree(root)` = `f d vs` is the recursive
    transformer's result. -/
theorem inplace_eq_recursive (f : Nat → List V → V) (g : Nat → V) (d : Nat) (kids : Forest) (kids' : MF V) (vs : List V)
    (hrun : Steps f g (MF.ofForest (.node d kids .nil)) (.node d (some vs) kids' .nil)) :
    [f d vs] = tr f g (.node d kids .nil) := by
  cases (Tracks.ofForest f g _).steps hrun with
  | node _ _ ho _ _ => rw [tr, tr, ← ho vs rfl]

-- (`Transformer_InPlaceRecursive._transform_tree` assigns `tree.children` and returns `f d (transformed children)`: as a function of a proper tree it is `tr`
-- itself, so there is nothing to state beyond the definition; its agreement with the other variants is observed by the correspondence.)


-- non-vacuity: `0(tok 1, 2(tok 3))` — the inner node is processed first, then the root; callbacks are free constructors
example : Steps (V := List Nat) (fun d vs => d :: vs.flatten) (fun t => [t])
    (MF.ofForest (.node 0 (.leaf 1 (.node 2 (.leaf 3 .nil) .nil)) .nil))
    (.node 0 (some [[1], [2, 3]]) (.leaf 1 (.node 2 (some [[3]]) (.leaf 3 .nil) .nil)) .nil) :=
  Steps.step _ _ _ (Step.inKids _ _ _ _ _ (Step.inRestL _ _ _ (Step.here _ _ _ _ rfl)))
    (Steps.step _ _ _ (Step.here _ _ _ _ rfl) (Steps.refl _))

end TrProto
