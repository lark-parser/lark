import LarkVerif.LRCheck
import LarkVerif.FirstSets
/-! Executable completeness certificate: a Boolean check over a concrete table, an item-lookahead annotation and NULLABLE/FIRST tables, with the
    reflection theorem `checkClosed_sound : checkClosed … = true → TableClosed …` — so that `parse_complete` applies to lark's *own* table for each
    generated grammar (translation validation, kernel-checked), exactly as `checkSafe` does for soundness. -/
namespace LRProto
open EarleyProto

/-- lookahead sets attached to the items of each state -/
structure Ann where
  la : List ((Nat × Rule × Nat) × List Nat)

def Ann.get (A : Ann) (q : Nat) (it : Rule × Nat) : List Nat := (A.la.lookup (q, it.1, it.2)).getD []
def Ann.rel (A : Ann) : Nat → Rule × Nat → Nat → Prop := fun q it c => c ∈ A.get q it

def fnOf (nullableL : List Nat) (firstL : List (Nat × List Nat)) : FN :=
  { nullable := fun a => nullableL.contains a, first := fun a => (firstL.lookup a).getD [] }

def subsetB (a b : List Nat) : Bool := a.all fun c => b.contains c

theorem subsetB_iff {a b : List Nat} : subsetB a b = true ↔ ∀ c ∈ a, c ∈ b := by
  simp only [subsetB, List.all_eq_true, List.contains_iff_mem]

def isReduce (a : Option Action) (r : Rule) : Bool :=
  match a with
  | some (Action.reduce r') => r' == r
  | _ => false

theorem isReduce_spec {a : Option Action} {r : Rule} (h : isReduce a r = true) : a = some (Action.reduce r) := by
  unfold isReduce at h
  split at h
  · rw [eq_of_beq h]
  · cases h

/-- the target of the transition on `X` from `q`, if any -/
def FTable.target (F : FTable) (q : Nat) (X : Sym) : Option Nat :=
  match X with
  | Sym.t a => match F.action q a with
    | some (Action.shift q') => some q'
    | _ => none
  | Sym.nt B => F.goto q B

theorem FTable.target_spec {F : FTable} {q q' : Nat} {X : Sym} (h : F.target q X = some q') : F.toTable.trans q X q' := by
  cases X with
  | nt B => exact h
  | t a =>
    simp only [FTable.target] at h
    split at h
    · rename_i q'' heq; cases h; exact heq
    · cases h

def closureOk (G : Grammar) (F : FTable) (T : FN) (A : Ann) (q : Nat) (it : Rule × Nat) : Bool :=
  match it.1.rhs[it.2]? with
  | some (Sym.nt B) =>
    G.rules.all fun r' =>
      r'.lhs != B ||
        ((F.itemsOf q).contains (r', 0) &&
         subsetB (T.firstSeq (it.1.rhs.drop (it.2 + 1))) (A.get q (r', 0)) &&
         (!T.nullableSeq (it.1.rhs.drop (it.2 + 1)) || subsetB (A.get q it) (A.get q (r', 0))))
  | _ => true

def gotoOk (F : FTable) (A : Ann) (q : Nat) (it : Rule × Nat) : Bool :=
  match it.1.rhs[it.2]? with
  | some X =>
    match F.target q X with
    | some q' => (F.itemsOf q').contains (it.1, it.2 + 1) && subsetB (A.get q it) (A.get q' (it.1, it.2 + 1))
    | none => false
  | none => true

def reduceOk (F : FTable) (A : Ann) (q : Nat) (it : Rule × Nat) : Bool :=
  it.2 != it.1.rhs.length || (A.get q it).all fun c => isReduce (F.action q c) it.1

/-- the executable certificate check for `TableClosed` -/
def checkClosed (G : Grammar) (F : FTable) (T : FN) (A : Ann) (s0 eof : Nat) : Bool :=
  T.closedB G &&
  ((List.range F.items.length).all fun q => (F.itemsOf q).all fun it => closureOk G F T A q it && gotoOk F A q it && reduceOk F A q it) &&
  (G.rules.all fun r => r.lhs != s0 || ((F.itemsOf F.start).contains (r, 0) && (A.get F.start (r, 0)).contains eof)) &&
  (F.goto F.start s0 == some F.final)

/-- REFLECTION: a table that passes the check is closed under the LALR conditions, hence (by `parse_complete`) the driver running on it accepts
    every sentence. -/
theorem checkClosed_sound (G : Grammar) (F : FTable) (T : FN) (A : Ann) (s0 eof : Nat) (h : checkClosed G F T A s0 eof = true) :
    TableClosed G F.toTable s0 eof A.rel := by
  simp only [checkClosed, Bool.and_eq_true, List.all_eq_true, List.mem_range, bne, Bool.not_or_eq_true_iff, beq_iff_eq,
    List.contains_iff_mem] at h
  obtain ⟨⟨⟨hT, hitems⟩, hstart⟩, hacc⟩ := h
  have hit := fun q it (hm : it ∈ F.itemsOf q) => hitems q (mem_items_lt hm) it hm
  refine { closure := ?_, goto := ?_, reduce := ?_, start := hstart, accept := hacc }
  · intro q r d B hm hd r' hr' hl
    have hc := (hit q (r, d) hm).1.1
    simp only [closureOk, hd, List.all_eq_true, bne, Bool.not_or_eq_true_iff, beq_iff_eq, Bool.and_eq_true, List.contains_iff_mem,
      subsetB_iff] at hc
    obtain ⟨⟨hmem, hfirst⟩, hnull⟩ := hc r' hr' hl
    exact ⟨hmem, firstOf_of_tables hT _ _ _ hfirst hnull⟩
  · intro q r d X hm hd
    have hg := (hit q (r, d) hm).1.2
    simp only [gotoOk, hd] at hg
    split at hg
    · rename_i q' ht
      simp only [Bool.and_eq_true, List.contains_iff_mem, subsetB_iff] at hg
      exact ⟨q', FTable.target_spec ht, hg⟩
    · cases hg
  · intro q r c hm hla
    have hr := (hit q (r, r.rhs.length) hm).2
    simp only [reduceOk, bne_self_eq_false, Bool.false_or, List.all_eq_true] at hr
    exact isReduce_spec (hr c hla)

/-- completeness of lark's own table, per grammar, for every sentence -/
theorem checked_table_complete (G : Grammar) (F : FTable) (T : FN) (A : Ann) (s0 eof : Nat) (h : checkClosed G F T A s0 eof = true)
    (toks : List Nat) (hd : DerivesSeq G [Sym.nt s0] toks) :
    ∃ F0, ∀ fuel, F0 < fuel → ∃ v, parse F.toTable eof fuel toks = Outcome.accept v :=
  parse_complete (checkClosed_sound G F T A s0 eof h) toks hd

end LRProto
