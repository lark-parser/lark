import LarkVerif.Repeat
import LarkVerif.Extracted
/-! # C09 — repetition and optional operators match exactly the stated counts

The thresholds are the values extracted from `/repo/lark/load_grammar.py` on this
run; the side condition `2 < SMALL_FACTOR_THRESHOLD` (what `small_factors` asserts) is closed by `decide`, so
an edit of the constant re-checks it.  -/
namespace Props.C09
open Proto

theorem threshold_ok : 2 < Extracted.smallFactorThreshold := by decide

/-- `small_factors(n, SMALL_FACTOR_THRESHOLD)` re-multiplies to `n`, for every `n`. -/
theorem small_factors_exact (n : Nat) :
    evalFactors (smallFactors n Extracted.smallFactorThreshold) = n :=
  smallFactors_correct _ threshold_ok n

/-- `x ~ mn..mx`, rule side, for every `0 ≤ mn ≤ mx`: the tree of helper rules `_generate_repeats` builds with the
    thresholds of the current source matches exactly `mn` to `mx` occurrences of `x`. -/
theorem repeat_counts (mn mx : Nat) (hle : mn ≤ mx) (k : Nat) :
    (genTree Extracted.repeatBreakThreshold Extracted.smallFactorThreshold mn mx).counts k ↔ mn ≤ k ∧ k ≤ mx :=
  genTree_counts _ _ threshold_ok mn mx hle k

/-- `x ~ n` -/
theorem repeat_exact (n k : Nat) :
    (genTree Extracted.repeatBreakThreshold Extracted.smallFactorThreshold n n).counts k ↔ k = n := by
  rw [repeat_counts n n (Nat.le_refl n)]; omega

theorem plus_counts (k : Nat) : PlusCount k ↔ 1 ≤ k := plusCount_iff k
theorem star_counts (k : Nat) : starCount k := starCount_all k
theorem opt_counts (k : Nat) : optCount k ↔ k ≤ 1 := optCount_iff k

-- non-vacuity: a large bound goes through the factored branch and yields a real tree
example : genTree 50 5 3 120 ≠ .naive 3 120 := by decide
example : (genTree 50 5 57 57).counts 57 := (genTree_counts 50 5 (by decide) 57 57 (by decide) 57).mpr ⟨by decide, by decide⟩

end Props.C09
