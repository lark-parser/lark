/-! C19 — the Reconstructor: (1) the text-assembly loop of `Reconstructor.reconstruct` (reconstruct.py:96-104) and (2) the composition argument
    "the emitted tokens are the yield of a derivation whose shape is the tree ⇒ re-parsing gives the tree". -/
namespace ReconsProto

/-- reconstruct.py:98-104: a blank is inserted between two items exactly when the previous item ends and the next one starts with an
    identifier character (`prev_item` is updated even by an empty item) -/
def joinFrom (isId : Char → Bool) : List Char → List (List Char) → List Char
  | _, [] => []
  | prev, item :: rest =>
    let sp := match prev.getLast?, item.head? with
      | some a, some b => isId a && isId b
      | _, _ => false
    (if sp then [' '] else []) ++ item ++ joinFrom isId item rest

def joinItems (isId : Char → Bool) (items : List (List Char)) : List Char := joinFrom isId [] items

/-- removing the blanks from the output gives back the concatenation of the items (when the items contain no blank themselves):
    the assembly loop never drops, reorders or alters an emitted token -/
theorem joinFrom_erase (isId : Char → Bool) (items : List (List Char)) (prev : List Char) (h : ∀ it ∈ items, ' ' ∉ it) :
    (joinFrom isId prev items).filter (· ≠ ' ') = items.flatten := by
  fun_induction joinFrom isId prev items with
  | case1 => rfl
  | case2 prev item rest sp ih =>
    have hitem : item.filter (· ≠ ' ') = item :=
      List.filter_eq_self.mpr fun c hc => decide_eq_true fun e => h item (List.mem_cons_self ..) (e ▸ hc)
    rw [List.filter_append, List.filter_append, hitem, ih fun it hit => h it (List.mem_cons_of_mem _ hit), List.flatten_cons]
    cases sp <;> rfl

theorem join_erase (isId : Char → Bool) (items : List (List Char)) (h : ∀ it ∈ items, ' ' ∉ it) :
    (joinItems isId items).filter (· ≠ ' ') = items.flatten := joinFrom_erase isId items [] h

/-- two identifier characters coming from two consecutive items are never glued together -/
theorem joinFrom_separates (isId : Char → Bool) (prev item : List Char) (rest : List (List Char)) (a b : Char)
    (ha : prev.getLast? = some a) (hb : item.head? = some b) (hida : isId a = true) (hidb : isId b = true) :
    joinFrom isId prev (item :: rest) = ' ' :: (item ++ joinFrom isId item rest) := by
  simp [joinFrom, ha, hb, hida, hidb]

/-- **Composition.** If the parser is sound and complete for an unambiguous grammar, and the reconstructor returns a derivation whose shape is
    the given tree, then parsing the yield of that derivation returns exactly that tree. -/
theorem reconstruct_reparses {Deriv Tree Text : Type} (yield : Deriv → Text) (shape : Deriv → Tree) (parse : Text → Option Deriv)
    (hsound : ∀ w d, parse w = some d → yield d = w) (hcomplete : ∀ d, ∃ d2, parse (yield d) = some d2)
    (hunamb : ∀ d1 d2, yield d1 = yield d2 → d1 = d2)
    (recons : Tree → Option Deriv) (hrec : ∀ t d, recons t = some d → shape d = t) :
    ∀ t d, recons t = some d → (parse (yield d)).map shape = some t := by
  intro t d h
  obtain ⟨d2, hd2⟩ := hcomplete d
  cases hunamb d2 d (hsound _ _ hd2)
  rw [hd2, Option.map_some, hrec t d h]

end ReconsProto
