import LarkVerif.Earley
import LarkVerif.Saturate
namespace EarleyProto
open Sat

structure FLattice where
  n : Nat
  edges : List (Nat × Nat × Nat)   -- (terminal, i, j)
  igns : List (Nat × Nat)

def FLattice.toLattice (L : FLattice) : Lattice :=
  { edge := fun a i j => (a, i, j) ∈ L.edges, ign := fun i j => (i, j) ∈ L.igns }

structure FLattice.WF (L : FLattice) : Prop where
  edge_fwd : ∀ a i j, (a, i, j) ∈ L.edges → i < j ∧ j ≤ L.n
  ign_fwd : ∀ i j, (i, j) ∈ L.igns → i < j ∧ j ≤ L.n

structure CItem where
  col : Nat
  rule : Rule
  dot : Nat
  origin : Nat
deriving DecidableEq

def CItem.item (c : CItem) : Item := ⟨c.rule, c.dot, c.origin⟩

/-- the finite universe of chart entries -/
def univ (G : Grammar) (n : Nat) : List CItem :=
  (List.range (n+1)).flatMap fun i =>
    G.rules.flatMap fun r =>
      (List.range (r.rhs.length+1)).flatMap fun d =>
        (List.range (i+1)).map fun k => ⟨i, r, d, k⟩

theorem mem_univ {G : Grammar} {n : Nat} {c : CItem} :
    c ∈ univ G n ↔ c.col ≤ n ∧ c.rule ∈ G.rules ∧ c.dot ≤ c.rule.rhs.length ∧ c.origin ≤ c.col := by
  cases c with
  | mk i r d k =>
    simp only [univ, List.mem_flatMap, List.mem_range, List.mem_map, CItem.mk.injEq, Nat.lt_add_one_iff]
    constructor
    · rintro ⟨_, hi, _, hr, _, hd, _, hk, rfl, rfl, rfl, rfl⟩
      exact ⟨hi, hr, hd, hk⟩
    · rintro ⟨hi, hr, hd, hk⟩
      exact ⟨i, hi, r, hr, d, hd, k, hk, rfl, rfl, rfl, rfl⟩

/-- one round of all Earley rules (lark/parsers/earley.py:78, xearley.py:44), order-free -/
def step (G : Grammar) (L : FLattice) (start : Nat) (S : List CItem) : List CItem :=
  S.flatMap fun it =>
    match it.rule.rhs[it.dot]? with
    | some (Sym.nt B) =>
        (G.rules.filter (fun r' => r'.lhs = B)).map (fun r' => ⟨it.col, r', 0, it.col⟩)
    | some (Sym.t a) =>
        (L.edges.filter (fun e => e.1 = a ∧ e.2.1 = it.col)).map (fun e => ⟨e.2.2, it.rule, it.dot+1, it.origin⟩)
        ++ (L.igns.filter (fun e => e.1 = it.col)).map (fun e => ⟨e.2, it.rule, it.dot, it.origin⟩)
    | none =>
        (S.filter (fun p => p.col = it.origin ∧ p.rule.rhs[p.dot]? = some (Sym.nt it.rule.lhs))).map
            (fun p => ⟨it.col, p.rule, p.dot+1, p.origin⟩)
        ++ (if it.rule.lhs = start ∧ it.origin = 0 then
              (L.igns.filter (fun e => e.1 = it.col)).map (fun e => ⟨e.2, it.rule, it.dot, it.origin⟩)
            else [])

def seed (G : Grammar) (start : Nat) : List CItem :=
  (G.rules.filter (fun r => r.lhs = start)).map (fun r => ⟨0, r, 0, 0⟩)

def chart (G : Grammar) (L : FLattice) (start : Nat) : List CItem :=
  saturate (univ G L.n) (step G L start) (seed G start)

def accepts (G : Grammar) (L : FLattice) (start : Nat) : Bool :=
  (chart G L start).any fun c => c.col = L.n ∧ c.origin = 0 ∧ c.rule.lhs = start ∧ c.dot = c.rule.rhs.length

abbrev ChartP (G : Grammar) (L : FLattice) (start : Nat) (c : CItem) : Prop :=
  Chart G L.toLattice start c.col c.item

theorem Chart.dot_le {G : Grammar} {L : Lattice} {start i it} (h : Chart G L start i it) :
    it.dot ≤ it.rule.rhs.length := by
  induction h with
  | init => exact Nat.zero_le _
  | predict => exact Nat.zero_le _
  | scan i j r d k a _ hd _ _ => exact (List.getElem?_eq_some_iff.mp hd).1
  | ignore i j r d k a _ hd _ _ => exact Nat.le_of_lt (List.getElem?_eq_some_iff.mp hd).1
  | complete i j r' r d k _ _ hd _ _ => exact (List.getElem?_eq_some_iff.mp hd).1
  | carry => exact Nat.le_refl _

/-- One round, read as a proposition: for an item of `S`, by the symbol under its dot — predict; scan or carry over ignored text;
    complete into the items of `S` that wait for it at its origin, or (a finished start rule) carry over trailing ignored text. -/
theorem mem_step {G : Grammar} {L : FLattice} {start : Nat} {S : List CItem} {x : CItem} :
    x ∈ step G L start S ↔ ∃ it ∈ S,
      match it.rule.rhs[it.dot]? with
      | some (Sym.nt B) => ∃ r' ∈ G.rules, r'.lhs = B ∧ x = ⟨it.col, r', 0, it.col⟩
      | some (Sym.t a) =>
          (∃ e ∈ L.edges, (e.1 = a ∧ e.2.1 = it.col) ∧ x = ⟨e.2.2, it.rule, it.dot + 1, it.origin⟩) ∨
          (∃ e ∈ L.igns, e.1 = it.col ∧ x = ⟨e.2, it.rule, it.dot, it.origin⟩)
      | none =>
          (∃ p ∈ S, (p.col = it.origin ∧ p.rule.rhs[p.dot]? = some (Sym.nt it.rule.lhs)) ∧
              x = ⟨it.col, p.rule, p.dot + 1, p.origin⟩) ∨
          ((it.rule.lhs = start ∧ it.origin = 0) ∧ ∃ e ∈ L.igns, e.1 = it.col ∧ x = ⟨e.2, it.rule, it.dot, it.origin⟩) := by
  simp only [step, List.mem_flatMap]
  refine exists_congr fun it => and_congr_right fun _ => ?_
  split
  · simp only [List.mem_map, List.mem_filter, decide_eq_true_eq, and_assoc, @eq_comm _ x]
  · simp only [List.mem_append, List.mem_map, List.mem_filter, decide_eq_true_eq, and_assoc, @eq_comm _ x]
  · simp only [List.mem_append, List.mem_ite_nil_right, List.mem_map, List.mem_filter, decide_eq_true_eq, and_assoc, @eq_comm _ x]

/-- every entry the executable produces is justified by the deduction system -/
theorem chart_sound_exec (G : Grammar) (L : FLattice) (start : Nat) :
    ∀ c ∈ chart G L start, ChartP G L start c := by
  apply saturate_least
  · intro t ht x hx
    obtain ⟨it, hit, hx⟩ := mem_step.mp hx
    have hP : Chart G L.toLattice start it.col ⟨it.rule, it.dot, it.origin⟩ := ht it hit
    split at hx
    · rename_i B hd
      obtain ⟨r', hr', rfl, rfl⟩ := hx
      exact Chart.predict _ _ _ _ r' hP hd hr'
    · rename_i a hd
      rcases hx with ⟨⟨_, _, j⟩, he, ⟨rfl, rfl⟩, rfl⟩ | ⟨⟨_, j⟩, hi, rfl, rfl⟩
      · exact Chart.scan _ j _ _ _ _ hP hd he
      · exact Chart.ignore _ j _ _ _ a hP hd hi
    · -- nothing under the dot: the item is complete
      rename_i hnone
      have hdot : it.dot = it.rule.rhs.length :=
        Nat.le_antisymm (Chart.dot_le hP) (List.getElem?_eq_none_iff.mp hnone)
      rcases hx with ⟨p, hp, ⟨hcol, hd⟩, rfl⟩ | ⟨⟨hs, hk⟩, ⟨_, j⟩, hi, rfl, rfl⟩
      · exact Chart.complete it.col it.origin it.rule p.rule p.dot p.origin (hdot ▸ hP) (hcol ▸ ht p hp) hd
      · show Chart G L.toLattice start j ⟨it.rule, it.dot, it.origin⟩
        rw [hdot] at hP ⊢
        exact Chart.carry it.col j it.rule it.origin hP hs hk hi
  · intro y hy
    simp only [seed, List.mem_map, List.mem_filter, decide_eq_true_eq] at hy
    obtain ⟨r, ⟨hr, hs⟩, rfl⟩ := hy
    exact Chart.init r hr hs


theorem Chart.bounds {G : Grammar} {L : FLattice} (hL : L.WF) {start i it}
    (h : Chart G L.toLattice start i it) : it.origin ≤ i ∧ i ≤ L.n := by
  induction h with
  | init => simp
  | predict i r d k r' _ _ _ ih => exact ⟨Nat.le_refl _, ih.2⟩
  | scan i j r d k a _ _ he ih =>
    have := hL.edge_fwd a i j he; simp only at ih ⊢; omega
  | ignore i j r d k a _ _ he ih =>
    have := hL.ign_fwd i j he; simp only at ih ⊢; omega
  | complete i j r' r d k _ _ _ ih1 ih2 => simp only at ih1 ih2 ⊢; omega
  | carry i j r k _ _ _ he ih =>
    have := hL.ign_fwd i j he; simp only at ih ⊢; omega

theorem Chart.mem_univ {G : Grammar} {L : FLattice} (hL : L.WF) {start i it} (h : Chart G L.toLattice start i it) :
    (⟨i, it.rule, it.dot, it.origin⟩ : CItem) ∈ univ G L.n :=
  EarleyProto.mem_univ.mpr ⟨(h.bounds hL).2, h.rule_mem, h.dot_le, (h.bounds hL).1⟩

/-- every fact of the deduction system is found by the executable -/
theorem chart_complete_exec (G : Grammar) (L : FLattice) (hL : L.WF) (start : Nat) {i it}
    (h : Chart G L.toLattice start i it) : (⟨i, it.rule, it.dot, it.origin⟩ : CItem) ∈ chart G L start := by
  -- a fact is in the universe, so it is enough to find it in one more round over the chart
  have closed : ∀ {i it}, Chart G L.toLattice start i it → ⟨i, it.rule, it.dot, it.origin⟩ ∈ step G L start (chart G L start) →
      (⟨i, it.rule, it.dot, it.origin⟩ : CItem) ∈ chart G L start :=
    fun h hx => saturate_closed _ _ _ _ hx (h.mem_univ hL)
  induction h with
  | init r hr hs =>
    apply saturate_superset
    simp only [seed, List.mem_map, List.mem_filter, decide_eq_true_eq]
    exact ⟨r, ⟨hr, hs⟩, rfl⟩
  | predict i r d k r' hc hd hr' ih =>
    exact closed (Chart.predict i r d k r' hc hd hr') (mem_step.mpr ⟨_, ih, by simp only [hd]; exact ⟨r', hr', rfl, rfl⟩⟩)
  | scan i j r d k a hc hd he ih =>
    exact closed (Chart.scan i j r d k a hc hd he)
      (mem_step.mpr ⟨_, ih, by simp only [hd]; exact Or.inl ⟨(a, i, j), he, ⟨rfl, rfl⟩, rfl⟩⟩)
  | ignore i j r d k a hc hd he ih =>
    exact closed (Chart.ignore i j r d k a hc hd he)
      (mem_step.mpr ⟨_, ih, by simp only [hd]; exact Or.inr ⟨(i, j), he, rfl, rfl⟩⟩)
  | complete i j r' r d k hc1 hc2 hd ih1 ih2 =>
    exact closed (Chart.complete i j r' r d k hc1 hc2 hd)
      (mem_step.mpr ⟨_, ih1, by simp only [List.getElem?_eq_none (Nat.le_refl r'.rhs.length)]; exact Or.inl ⟨_, ih2, ⟨rfl, hd⟩, rfl⟩⟩)
  | carry i j r k hc hs hk he ih =>
    exact closed (Chart.carry i j r k hc hs hk he)
      (mem_step.mpr ⟨_, ih, by simp only [List.getElem?_eq_none (Nat.le_refl r.rhs.length)]; exact Or.inr ⟨⟨hs, hk⟩, (i, j), he, rfl, rfl⟩⟩)

/-- the executable chart is exactly the deduction system -/
theorem mem_chart_iff (G : Grammar) (L : FLattice) (hL : L.WF) (start : Nat) (c : CItem) :
    c ∈ chart G L start ↔ Chart G L.toLattice start c.col c.item :=
  ⟨chart_sound_exec G L start c, fun h => chart_complete_exec G L hL start h⟩


theorem Path.decompose {L : Lattice} {i k ts} (h : Path L i k ts) :
    ∃ m, Steps L i m ts ∧ IgnStar L m k := by
  induction h with
  | nil i => exact ⟨i, Steps.nil i, IgnStar.refl i⟩
  | edge i j k a ts he _ ih =>
    obtain ⟨m, hs, hi⟩ := ih
    exact ⟨m, Steps.cons i i j m a ts (IgnStar.refl i) he hs, hi⟩
  | ign i j k ts hij _ ih =>
    obtain ⟨m, hs, hi⟩ := ih
    cases hs with
    | nil => exact ⟨i, Steps.nil i, IgnStar.step i j k hij hi⟩
    | cons _ i' j' _ a ts' hii he hs' =>
      exact ⟨m, Steps.cons i i' j' m a ts' (IgnStar.step i j i' hij hii) he hs', hi⟩

theorem Steps.toPath {L : Lattice} {i k ts} (h : Steps L i k ts) : Path L i k ts := by
  induction h with
  | nil i => exact Path.nil i
  | cons i i' j k a ts hi he _ ih => exact hi.toPath.append (Path.edge i' j k a ts he ih)

theorem Chart.carryStar {G : Grammar} {L : Lattice} {start : Nat} {r : Rule} {m k : Nat}
    (h : Chart G L start m ⟨r, r.rhs.length, 0⟩) (hi : IgnStar L m k) (hs : r.lhs = start) :
    Chart G L start k ⟨r, r.rhs.length, 0⟩ := by
  induction hi with
  | refl => exact h
  | step x y z hxy _ ih => exact ih (Chart.carry x y r 0 h hs rfl hxy)

/-- End-to-end: the executable recogniser accepts exactly the lattice paths that spell a sentence. -/
theorem accepts_iff (G : Grammar) (L : FLattice) (hL : L.WF) (start : Nat) :
    accepts G L start = true ↔
      ∃ ts, Path L.toLattice 0 L.n ts ∧ DerivesSeq G [Sym.nt start] ts := by
  simp only [accepts, List.any_eq_true, decide_eq_true_eq]
  constructor
  · rintro ⟨c, hc, hcol, horig, hlhs, hdot⟩
    have hC := chart_sound_exec G L start c hc
    obtain ⟨ts, hp, hd⟩ := hC.sound
    simp only [CItem.item, hdot, List.take_length] at hd hp
    exact ⟨ts, hcol ▸ horig ▸ hp, hlhs ▸ DerivesSeq.single hC.rule_mem hd⟩
  · rintro ⟨ts, hp, hd⟩
    obtain ⟨r, hr, hs, hder⟩ := hd.single_inv
    obtain ⟨m, hsteps, hign⟩ := hp.decompose
    have h := ((Chart.init r hr hs).advanceRule hder hsteps).carryStar hign hs
    exact ⟨_, chart_complete_exec G L hL start h, rfl, rfl, hs, rfl⟩

end EarleyProto
