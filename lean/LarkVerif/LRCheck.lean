import LarkVerif.LR
namespace LRProto
open EarleyProto

/-- a concrete, finite table as the harness sends it (lark's own, or the model's) -/
structure FTable where
  items : List (List (Rule × Nat))          -- item set of state q at index q
  shifts : List (Nat × Nat × Nat)           -- (state, terminal, target)
  reduces : List (Nat × Nat × Rule)         -- (state, terminal, rule)
  gotos : List (Nat × Nat × Nat)            -- (state, nonterminal, target)
  start : Nat
  final : Nat

def FTable.itemsOf (F : FTable) (q : Nat) : List (Rule × Nat) := F.items.getD q []

theorem mem_items_lt {F : FTable} {q : Nat} {it : Rule × Nat} (h : it ∈ F.itemsOf q) : q < F.items.length := by
  apply Nat.lt_of_not_le
  intro hq
  rw [FTable.itemsOf, List.getD_eq_getElem?_getD, List.getElem?_eq_none hq] at h
  exact absurd h List.not_mem_nil

/-- a dict lookup: shifts shadow reduces for the same key (lalr_analysis.py:271-298 builds shifts first and adds
    a reduce only if the key is free) -/
def FTable.action (F : FTable) (q t : Nat) : Option Action :=
  match F.shifts.find? (fun e => e.1 = q ∧ e.2.1 = t) with
  | some e => some (Action.shift e.2.2)
  | none =>
    match F.reduces.find? (fun e => e.1 = q ∧ e.2.1 = t) with
    | some e => some (Action.reduce e.2.2)
    | none => none

def FTable.goto (F : FTable) (p A : Nat) : Option Nat :=
  (F.gotos.find? (fun e => e.1 = p ∧ e.2.1 = A)).map (·.2.2)

def FTable.toTable (F : FTable) : Table :=
  { items := F.itemsOf, action := F.action, goto := F.goto, start := F.start, final := F.final }

/-- every item of the target is a dot-0 item or an item of the source advanced over `X` -/
def succOk (F : FTable) (p : Nat) (X : Sym) (q : Nat) : Bool :=
  (F.itemsOf q).all fun it =>
    it.2 = 0 || (0 < it.2 && it.1.rhs[it.2 - 1]? = some X && (F.itemsOf p).contains (it.1, it.2 - 1))

/-- the executable certificate check for `TableSafe` -/
def checkSafe (G : Grammar) (F : FTable) (s0 : Nat) : Bool :=
  F.shifts.all (fun e => succOk F e.1 (Sym.t e.2.1) e.2.2) &&
  F.gotos.all (fun e => succOk F e.1 (Sym.nt e.2.1) e.2.2) &&
  F.reduces.all (fun e => (F.itemsOf e.1).contains (e.2.2, e.2.2.rhs.length) && G.rules.contains e.2.2) &&
  (F.itemsOf F.start).all (fun it => it.2 = 0) &&
  F.shifts.all (fun e => e.2.2 ≠ F.final && e.2.2 ≠ F.start) &&
  F.gotos.all (fun e => (e.2.2 ≠ F.final || (e.1 = F.start && e.2.1 = s0)) && e.2.2 ≠ F.start)

theorem succOk_spec {F : FTable} {p q : Nat} {X : Sym} (h : succOk F p X q = true) :
    ∀ r d, (r, d) ∈ F.itemsOf q → d = 0 ∨ ∃ d', d = d' + 1 ∧ r.rhs[d']? = some X ∧ (r, d') ∈ F.itemsOf p := by
  simp only [succOk, List.all_eq_true, Bool.or_eq_true, Bool.and_eq_true, decide_eq_true_eq, List.contains_iff_mem] at h
  exact fun r d hmem => (h (r, d) hmem).imp id fun ⟨⟨hpos, hX⟩, hin⟩ => ⟨d - 1, (Nat.sub_add_cancel hpos).symm, hX, hin⟩

theorem mem_of_find?_key {γ : Type} {l : List (Nat × Nat × γ)} {q t : Nat} {e : Nat × Nat × γ}
    (h : l.find? (fun e => e.1 = q ∧ e.2.1 = t) = some e) : (q, t, e.2.2) ∈ l := by
  have hm := List.mem_of_find?_eq_some h
  have hp := List.find?_some h
  simp only [decide_eq_true_eq] at hp
  obtain ⟨e1, e2, e3⟩ := e
  obtain ⟨rfl, rfl⟩ := hp
  exact hm

theorem FTable.mem_of_action {F : FTable} {q t : Nat} {a : Action} (h : F.action q t = some a) :
    match a with
    | Action.shift q' => (q, t, q') ∈ F.shifts
    | Action.reduce r => (q, t, r) ∈ F.reduces := by
  unfold FTable.action at h
  split at h
  · rename_i e he; cases h; exact mem_of_find?_key he
  · split at h
    · rename_i e he; cases h; exact mem_of_find?_key he
    · cases h

theorem FTable.mem_of_goto {F : FTable} {p A q : Nat} (h : F.goto p A = some q) : (p, A, q) ∈ F.gotos := by
  obtain ⟨e, he, rfl⟩ := Option.map_eq_some_iff.mp h
  exact mem_of_find?_key he

theorem FTable.trans_ind {F : FTable} {P : Nat → Sym → Nat → Prop} (hs : ∀ e ∈ F.shifts, P e.1 (Sym.t e.2.1) e.2.2)
    (hg : ∀ e ∈ F.gotos, P e.1 (Sym.nt e.2.1) e.2.2) : ∀ p X q, F.toTable.trans p X q → P p X q := by
  intro p X q ht
  cases X with
  | t a => exact hs _ (FTable.mem_of_action ht)
  | nt A => exact hg _ (FTable.mem_of_goto ht)

/-- REFLECTION: a table that passes the check satisfies the certificate, hence (by `parse_sound`) the driver
    running on it accepts only sentences — for every input. -/
theorem checkSafe_sound (G : Grammar) (F : FTable) (s0 : Nat) (h : checkSafe G F s0 = true) :
    TableSafe G F.toTable s0 := by
  simp only [checkSafe, Bool.and_eq_true, List.all_eq_true, List.contains_iff_mem, decide_not, Bool.not_or_eq_true_iff,
    Bool.not_eq_true', decide_eq_false_iff_not, decide_eq_true_eq] at h
  obtain ⟨⟨⟨⟨⟨hsh, hgo⟩, hred⟩, hst⟩, hshT⟩, hgoT⟩ := h
  refine ⟨?_, ?_, ?_, ?_, ?_⟩
  · exact fun p X q ht => succOk_spec (FTable.trans_ind (P := fun p X q => succOk F p X q = true) hsh hgo p X q ht)
  · exact fun q t r hact => hred (q, t, r) (FTable.mem_of_action hact)
  · exact fun r d hmem => hst (r, d) hmem
  · intro p X ht
    exact FTable.trans_ind (P := fun p X q => q = F.final → p = F.start ∧ X = Sym.nt s0) (fun e he hf => absurd hf (hshT e he).1)
      (fun e he hf => ((hgoT e he).1 hf).imp id (congrArg Sym.nt)) p X _ ht rfl
  · intro p X ht
    exact FTable.trans_ind (P := fun _ _ q => q ≠ F.start) (fun e he => (hshT e he).2) (fun e he => (hgoT e he).2) p X _ ht rfl

/-- end to end on a concrete table: check once, then every accepted token string is a sentence -/
theorem checked_table_sound (G : Grammar) (F : FTable) (s0 eof fuel : Nat) (h : checkSafe G F s0 = true)
    (toks : List Nat) (v : Sym × List Nat) (hacc : parse F.toTable eof fuel toks = Outcome.accept v) :
    DerivesSeq G [Sym.nt s0] toks :=
  (parse_sound (checkSafe_sound G F s0 h) eof fuel toks v hacc).2

end LRProto
