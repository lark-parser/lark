/-! # The parse table's own re-encoding (`lark/parsers/lalr_analysis.py:44 ParseTableBase.serialize / :61 deserialize`, `lark/utils.py:264 Enumerator`)

`serialize` replaces every terminal/rule *name* that keys a row by a small integer handed out in first-seen order by an `Enumerator`, and ships the
reverse dictionary (`tokens`) along; `deserialize` looks every integer up again.  The table is a dict of dicts: modelled as association lists in
insertion order (what a Python dict is), actions as `shift n` / `reduce r` with `r` the rule's identity in the serialisation memo. -/
namespace TableSer

inductive Act where
  | shift (s : Nat)          -- (Shift, state)        → (0, state)
  | reduce (r : Nat)         -- (Reduce, rule)        → (1, rule.serialize(memo))
deriving DecidableEq, Repr

abbrev Row := List (String × Act)
abbrev Table := List (Nat × Row)
abbrev ERow := List (Nat × Act)
abbrev ETable := List (Nat × ERow)

/-- position of a name in the enumerator (`self.enums[item]`) -/
def pos (t : String) : List String → Option Nat
  | [] => none
  | x :: xs => if x = t then some 0 else (pos t xs).map (· + 1)

/-- `Enumerator.get`: known names keep their number, a new name gets `len(self.enums)` -/
def get (e : List String) (t : String) : List String × Nat :=
  match pos t e with
  | some i => (e, i)
  | none => (e ++ [t], e.length)

def serRow (e : List String) : Row → List String × ERow
  | [] => (e, [])
  | (t, a) :: r =>
    let g := get e t
    let s := serRow g.1 r
    (s.1, (g.2, a) :: s.2)

def serStates (e : List String) : Table → List String × ETable
  | [] => (e, [])
  | (st, row) :: rest =>
    let s := serRow e row
    let t := serStates s.1 rest
    (t.1, (st, s.2) :: t.2)

/-- `ParseTableBase.serialize`: (`tokens.reversed()` as the list index ↦ name, `states`) -/
def serialize (T : Table) : List String × ETable := serStates [] T

def deserRow (toks : List String) : ERow → Option Row
  | [] => some []
  | (i, a) :: r =>
    match toks[i]?, deserRow toks r with
    | some t, some r' => some ((t, a) :: r')
    | _, _ => none            -- KeyError

def deserStates (toks : List String) : ETable → Option Table
  | [] => some []
  | (st, row) :: rest =>
    match deserRow toks row, deserStates toks rest with
    | some r, some t => some ((st, r) :: t)
    | _, _ => none

/-- `ParseTableBase.deserialize` -/
def deserialize (d : List String × ETable) : Option Table := deserStates d.1 d.2

theorem pos_some {t : String} {e : List String} {i : Nat} (h : pos t e = some i) : e[i]? = some t := by
  fun_induction pos t e generalizing i with
  | case1 => cases h
  | case2 xs => cases h; rfl
  | case3 x xs hx ih =>
    obtain ⟨j, hj, rfl⟩ := Option.map_eq_some_iff.mp h
    exact ih hj

theorem lookup_ext {e toks : List String} (h : e <+: toks) {i : Nat} {t : String} (hi : e[i]? = some t) : toks[i]? = some t := by
  obtain ⟨hlt, rfl⟩ := List.getElem?_eq_some_iff.mp hi
  exact List.prefix_iff_getElem?.mp h i hlt

/-- stated, as are the two `_spec` lemmas below, for every extension of the enumerator reached, so that later encoding does not disturb earlier -/
theorem get_spec (e : List String) (t : String) :
    e <+: (get e t).1 ∧ ∀ toks, (get e t).1 <+: toks → toks[(get e t).2]? = some t := by
  unfold get
  cases hp : pos t e with
  | some i => exact ⟨List.prefix_refl e, fun _ h => lookup_ext h (pos_some hp)⟩
  | none => exact ⟨List.prefix_append e [t], fun _ h => lookup_ext h List.getElem?_concat_length⟩

theorem serRow_spec (row : Row) (e : List String) :
    e <+: (serRow e row).1 ∧ ∀ toks, (serRow e row).1 <+: toks → deserRow toks (serRow e row).2 = some row := by
  induction row generalizing e with
  | nil => exact ⟨List.prefix_refl e, fun _ _ => rfl⟩
  | cons p r ih =>
    obtain ⟨t, a⟩ := p
    obtain ⟨h0, hget⟩ := get_spec e t
    obtain ⟨h1, hrest⟩ := ih (get e t).1
    refine ⟨h0.trans h1, fun toks h => ?_⟩
    simp only [serRow, deserRow, hget toks (h1.trans h), hrest toks h]

theorem serStates_spec (T : Table) (e : List String) :
    e <+: (serStates e T).1 ∧ ∀ toks, (serStates e T).1 <+: toks → deserStates toks (serStates e T).2 = some T := by
  induction T generalizing e with
  | nil => exact ⟨List.prefix_refl e, fun _ _ => rfl⟩
  | cons p rest ih =>
    obtain ⟨st, row⟩ := p
    obtain ⟨h0, hrow⟩ := serRow_spec row e
    obtain ⟨h1, hrest⟩ := ih (serRow e row).1
    refine ⟨h0.trans h1, fun toks h => ?_⟩
    simp only [serStates, deserStates, hrow toks (h1.trans h), hrest toks h]

/-- **The re-encoding round trip is the identity on every parse table.** -/
theorem roundtrip (T : Table) : deserialize (serialize T) = some T :=
  (serStates_spec T []).2 _ (List.prefix_refl _)

/-- the number of a known name is an index into the enumerator -/
theorem pos_lt {t : String} : ∀ {e : List String} {i : Nat}, pos t e = some i → i < e.length :=
  fun h => (List.getElem?_eq_some_iff.mp (pos_some h)).1

example : serialize [(0, [("A", .shift 1), ("B", .reduce 0)]), (1, [("B", .shift 2), ("A", .reduce 1), ("$END", .reduce 0)])]
    = (["A", "B", "$END"], [(0, [(0, .shift 1), (1, .reduce 0)]), (1, [(1, .shift 2), (0, .reduce 1), (2, .reduce 0)])]) := by rfl

end TableSer
