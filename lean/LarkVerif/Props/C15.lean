import LarkVerif.Props.C06
/-! # C15 — str, bytes and TextSlice agree (coordinate half; token/tree equality is compared three-way by the harness) -/
namespace Props.C15
open LCProto

/-- a lexer started on the window `[start, …)` of a buffer begins with the buffer's coordinates of `start` -/
theorem window_begins_with_buffer_coordinates (buf : List Char) (start : Nat) (h : start ≤ buf.length) :
    Exact buf (LineCounter.fromStart buf start) ∧ (LineCounter.fromStart buf start).charPos = start := fromStart_exact buf start h

/-- … and every token it then stamps carries the buffer's offsets, lines and columns -/
theorem window_tokens_in_buffer_coordinates (buf : List Char) (s e : Nat) (flag : Bool) (h1 : s ≤ e) (h2 : e ≤ buf.length)
    (hflag : flag = true ∨ NL ∉ (buf.drop s).take (e - s)) : Props.C06.stampAt buf s e flag = Stamp.spec buf s e :=
  Props.C06.token_stamp_exact buf s e flag h1 h2 hflag

/-- resuming from a `(line, line_start_pos)` snapshot taken by an exact counter (`_TextSlice_WithLineCount`) is exact -/
theorem snapshot_resume_exact (buf : List Char) (lc : LineCounter) (h : Exact buf lc) :
    Exact buf ⟨lc.charPos, lc.line, lc.charPos - lc.lineStartPos + 1, lc.lineStartPos⟩ := resume_exact buf lc h

/-- shifting: the coordinates of offset `a + p` in `pre ++ w` (|pre| = a) are those of `p` in `w` moved by the newlines of `pre` -/
theorem coord_shift (pre w : List Char) (p : Nat) (hp : p ≤ w.length) :
    (coord (pre ++ w) (pre.length + p)).1 = (coord w p).1 + countNL pre := by
  show 1 + countNL ((pre ++ w).take (pre.length + p)) = 1 + countNL (w.take p) + countNL pre
  rw [List.take_length_add_append, countNL_append]; omega

end Props.C15
