import LarkVerif.LR
namespace LRProto
open EarleyProto

abbrev Cfg := List Nat × List (Sym × List Nat) × List Nat     -- states (top first), values, remaining input (eof last)

/-- one driver action (lark/parsers/lalr_parser_state.py:74-109, one loop iteration) -/
inductive Step (T : Table) : Cfg → Cfg → Prop
  | shift (q ss vals t rest q') : T.action q t = some (Action.shift q') →
      Step T (q :: ss, vals, t :: rest) (q' :: q :: ss, (Sym.t t, [t]) :: vals, rest)
  | reduce (q ss vals t rest r p ss' p') : T.action q t = some (Action.reduce r) →
      (q :: ss).drop r.rhs.length = p :: ss' → T.goto p r.lhs = some p' →
      Step T (q :: ss, vals, t :: rest)
             (p' :: p :: ss', (Sym.nt r.lhs, yieldOf (vals.take r.rhs.length)) :: vals.drop r.rhs.length, t :: rest)

inductive Steps (T : Table) : Cfg → Cfg → Prop
  | refl (a) : Steps T a a
  | head (a b c) : Step T a b → Steps T b c → Steps T a c

theorem Steps.trans {T : Table} {a b c} (h1 : Steps T a b) (h2 : Steps T b c) : Steps T a c := by
  induction h1 with
  | refl => exact h2
  | head a b _ hs _ ih => exact Steps.head a b c hs (ih h2)

theorem Steps.single {T : Table} {a b} (h : Step T a b) : Steps T a b := Steps.head a b b h (Steps.refl b)

/-- `c` can be the first token of (a string derived from `γ`) followed by a lookahead in `L` -/
def FirstOf (G : Grammar) (γ : List Sym) (L : Nat → Prop) (c : Nat) : Prop :=
  ∃ u, DerivesSeq G γ u ∧ (u.head? = some c ∨ (u = [] ∧ L c))

theorem FirstOf.mono {G γ} {L L' : Nat → Prop} {c} (h : FirstOf G γ L c) (hL : ∀ x, L x → L' x) : FirstOf G γ L' c := by
  obtain ⟨u, hd, h⟩ := h
  exact ⟨u, hd, h.imp id (fun ⟨h1, h2⟩ => ⟨h1, hL c h2⟩)⟩

theorem FirstOf.after {G : Grammar} {β γ : List Sym} {L : Nat → Prop} {c : Nat} {ts : List Nat} (hd : DerivesSeq G β ts)
    (hF : FirstOf G γ L c) (rest : List Nat) : ∃ c1 rest1, ts ++ c :: rest = c1 :: rest1 ∧ FirstOf G (β ++ γ) L c1 := by
  obtain ⟨w, hw, hwc⟩ := hF
  cases ts with
  | nil => exact ⟨c, rest, rfl, w, DerivesSeq.append hd hw, hwc⟩
  | cons x xs => exact ⟨x, xs ++ c :: rest, rfl, x :: xs ++ w, DerivesSeq.append hd hw, Or.inl rfl⟩

/-- the completeness certificate over an item-lookahead annotation `la` -/
structure TableClosed (G : Grammar) (T : Table) (s0 eof : Nat) (la : Nat → Rule × Nat → Nat → Prop) : Prop where
  closure : ∀ q r d B, (r, d) ∈ T.items q → r.rhs[d]? = some (Sym.nt B) → ∀ r' ∈ G.rules, r'.lhs = B →
      (r', 0) ∈ T.items q ∧ ∀ c, FirstOf G (r.rhs.drop (d+1)) (la q (r, d)) c → la q (r', 0) c
  goto : ∀ q r d X, (r, d) ∈ T.items q → r.rhs[d]? = some X →
      ∃ q', T.trans q X q' ∧ (r, d+1) ∈ T.items q' ∧ ∀ c, la q (r, d) c → la q' (r, d+1) c
  reduce : ∀ q r c, (r, r.rhs.length) ∈ T.items q → la q (r, r.rhs.length) c → T.action q c = some (Action.reduce r)
  start : ∀ r ∈ G.rules, r.lhs = s0 → (r, 0) ∈ T.items T.start ∧ la T.start (r, 0) eof
  accept : T.goto T.start s0 = some T.final

/-- the item `(r, d)` sits in the top state with at least the lookaheads `L` -/
def ItemAt (T : Table) (la : Nat → Rule × Nat → Nat → Prop) (states : List Nat) (r : Rule) (d : Nat) (L : Nat → Prop) : Prop :=
  ∃ q tl, states = q :: tl ∧ (r, d) ∈ T.items q ∧ ∀ x, L x → la q (r, d) x

/-- `n` states and values above `q1 :: ss` and `v1 :: vals` are `n + 1` above `ss` and `vals` -/
theorem consume_below {T : Table} {la : Nat → Rule × Nat → Nat → Prop} {a b : Cfg} {q1 : Nat} {ss : List Nat} {v1 : Sym × List Nat}
    {vals : List (Sym × List Nat)} {r : Rule} {d n : Nat} {out : List Nat} {L L1 : Nat → Prop} (hL : ∀ x, L x → L1 x) (first : Steps T a b)
    (h : ∃ ns nv, ns.length = n ∧ nv.length = n ∧ Steps T b (ns ++ q1 :: ss, nv ++ v1 :: vals, out) ∧
      ItemAt T la (ns ++ q1 :: ss) r (d + 1 + n) L1) :
    ∃ ns nv, ns.length = n + 1 ∧ nv.length = n + 1 ∧ Steps T a (ns ++ ss, nv ++ vals, out) ∧ ItemAt T la (ns ++ ss) r (d + (n + 1)) L := by
  obtain ⟨ns, nv, hns, hnv, hsteps, q', tl, hq', hi', hla'⟩ := h
  rw [Nat.add_right_comm] at hi' hla'
  refine ⟨ns ++ [q1], nv ++ [v1], by simp [hns], by simp [hnv], ?_, q', tl, ?_, hi', fun x hx => hla' x (hL x hx)⟩
  · rw [List.append_assoc, List.append_assoc]; exact first.trans hsteps
  · rw [List.append_assoc]; exact hq'

/-- The engine of completeness: the driver consumes the yield of `β`. -/
theorem consume {G : Grammar} {T : Table} {s0 eof : Nat} {la} (hC : TableClosed G T s0 eof la) :
    ∀ {β : List Sym} {u : List Nat}, DerivesSeq G β u →
    ∀ (q : Nat) (ss : List Nat) (vals : List (Sym × List Nat)) (r : Rule) (d : Nat) (γ : List Sym) (c : Nat) (rest : List Nat),
      (r, d) ∈ T.items q → r.rhs.drop d = β ++ γ → FirstOf G γ (la q (r, d)) c →
      ∃ ns nv, ns.length = β.length ∧ nv.length = β.length ∧
        Steps T (q :: ss, vals, u ++ c :: rest) (ns ++ q :: ss, nv ++ vals, c :: rest) ∧
        ItemAt T la (ns ++ q :: ss) r (d + β.length) (la q (r, d)) := by
  intro β u h
  induction h with
  | nil =>
    intro q ss vals r d γ c rest hi _ _
    exact ⟨[], [], rfl, rfl, Steps.refl _, q, ss, rfl, hi, fun x hx => hx⟩
  | term a β' ts _ ih =>
    intro q ss vals r d γ c rest hi hdrop hF
    obtain ⟨hd, hdrop'⟩ := drop_eq_cons_iff.mp hdrop
    obtain ⟨q1, htr, hi1, hla1⟩ := hC.goto q r d (Sym.t a) hi hd
    exact consume_below hla1 (Steps.single (Step.shift q ss vals a (ts ++ c :: rest) q1 htr))
      (ih q1 (q :: ss) ((Sym.t a, [a]) :: vals) r (d+1) γ c rest hi1 hdrop' (hF.mono hla1))
  | nonterm r' β' ts1 ts2 hr' hd1 hd2 ih1 ih2 =>
    intro q ss vals r d γ c rest hi hdrop hF
    obtain ⟨hd, hdrop'⟩ := drop_eq_cons_iff.mp hdrop
    obtain ⟨hi0, hcl⟩ := hC.closure q r d r'.lhs hi hd r' hr' rfl
    obtain ⟨q1, htr, hi1, hla1⟩ := hC.goto q r d (Sym.nt r'.lhs) hi hd
    -- the token that follows `ts1` is a lookahead of the predicted item
    obtain ⟨c1, rest1, hc1, hF1⟩ := hF.after hd2 rest
    have hla_c1 : la q (r', 0) c1 := hcl c1 (hdrop' ▸ hF1)
    obtain ⟨ns1, nv1, hns1, hnv1, hsteps1, qn, tln, hqn, hin, hlan⟩ :=
      ih1 q ss vals r' 0 [] c1 rest1 hi0 (by simp) ⟨[], DerivesSeq.nil, Or.inr ⟨rfl, hla_c1⟩⟩
    rw [Nat.zero_add] at hin hlan
    have hred := Step.reduce qn tln (nv1 ++ vals) c1 rest1 r' q ss q1 (hC.reduce qn r' c1 hin (hlan c1 hla_c1))
      (by rw [← hqn, List.drop_left' hns1]) htr
    rw [← hqn, List.drop_left' hnv1, ← hc1] at hred
    rw [← hc1] at hsteps1
    rw [List.append_assoc]
    exact consume_below hla1 (hsteps1.trans (Steps.single hred))
      (ih2 q1 (q :: ss) _ r (d+1) γ c rest hi1 hdrop' (hF.mono hla1))

/-- "the driver started here accepts within `n` actions" -/
inductive Run (T : Table) (eof : Nat) : Nat → Cfg → Prop
  | acc (q ss vals r p ss') : T.action q eof = some (Action.reduce r) →
      (q :: ss).drop r.rhs.length = p :: ss' → T.goto p r.lhs = some T.final →
      Run T eof 0 (q :: ss, vals, [eof])
  | shift (n q ss vals t t' rest q') : T.action q t = some (Action.shift q') →
      Run T eof n (q' :: q :: ss, (Sym.t t, [t]) :: vals, t' :: rest) →
      Run T eof (n+1) (q :: ss, vals, t :: t' :: rest)
  | reduce (n q ss vals t rest r p ss' p') : T.action q t = some (Action.reduce r) →
      (q :: ss).drop r.rhs.length = p :: ss' → T.goto p r.lhs = some p' →
      Run T eof n (p' :: p :: ss', (Sym.nt r.lhs, yieldOf (vals.take r.rhs.length)) :: vals.drop r.rhs.length, t :: rest) →
      Run T eof (n+1) (q :: ss, vals, t :: rest)

theorem Run.of_steps {T : Table} {eof n : Nat} {a b : Cfg} (h : Steps T a b) (hr : Run T eof n b) : ∃ m, Run T eof m a := by
  induction h with
  | refl => exact ⟨n, hr⟩
  | head a b c hs _ ih =>
    obtain ⟨m, hm⟩ := ih hr
    cases hs with
    | shift q ss vals t rest q' hact =>
      -- the run from `b` has non-empty input, so `rest` is non-empty
      cases rest with
      | nil => cases hm
      | cons t' rest' => exact ⟨m+1, Run.shift m q ss vals t t' rest' q' hact hm⟩
    | reduce q ss vals t rest r p ss' p' hact hdrop hgoto =>
      exact ⟨m+1, Run.reduce m q ss vals t rest r p ss' p' hact hdrop hgoto hm⟩

/-- every sentence has an accepting run (small-step completeness) -/
theorem complete_run {G : Grammar} {T : Table} {s0 eof : Nat} {la} (hC : TableClosed G T s0 eof la)
    (toks : List Nat) (h : DerivesSeq G [Sym.nt s0] toks) :
    ∃ n, Run T eof n ([T.start], [], toks ++ [eof]) := by
  obtain ⟨r, hr, hs, hder⟩ := h.single_inv
  obtain ⟨hi0, hla0⟩ := hC.start r hr hs
  obtain ⟨ns, nv, hns, hnv, hsteps, qn, tln, hqn, hin, hlan⟩ :=
    consume hC hder T.start [] [] r 0 [] eof [] hi0 (by simp) ⟨[], DerivesSeq.nil, Or.inr ⟨rfl, hla0⟩⟩
  simp only [Nat.zero_add] at hin hlan
  have hact := hC.reduce qn r eof hin (hlan eof hla0)
  have hgoto : T.goto T.start r.lhs = some T.final := by rw [hs]; exact hC.accept
  have hacc : Run T eof 0 (ns ++ [T.start], nv ++ [], [eof]) := by
    rw [hqn]
    refine Run.acc qn tln (nv ++ []) r T.start [] hact ?_ hgoto
    rw [← hqn, List.drop_left' hns]
  exact Run.of_steps hsteps hacc

/-- `parseFrom` with separate fuel for the token being processed -/
def parseFromAux (T : Table) (eof F : Nat) : Nat → Config → List Nat → Outcome
  | f, cfg, [] => reduceLoop T eof true f cfg
  | f, cfg, t :: ts =>
    match reduceLoop T t false f cfg with
    | Outcome.shifted cfg' => parseFrom T eof F cfg' ts
    | o => o

theorem parseFrom_eq_aux {T : Table} {eof F : Nat} {cfg : Config} {toks : List Nat} :
    parseFrom T eof F cfg toks = parseFromAux T eof F F cfg toks := by
  cases toks <;> rfl

/-- the executable driver follows an accepting run, given enough fuel -/
theorem run_accepts {T : Table} {eof : Nat} : ∀ n st vals toks, Run T eof n (st, vals, toks ++ [eof]) →
    ∀ F f, n < F → n < f → ∃ v, parseFromAux T eof F f ⟨st, vals⟩ toks = Outcome.accept v := by
  intro n
  induction n with
  | zero =>
    intro st vals toks hr F f _ hf
    obtain _ | f := f
    · omega
    generalize hin : toks ++ [eof] = input at hr
    cases hr with
    | acc q ss vals' r p ss' hact hdrop hgoto =>
      rcases List.append_eq_cons_iff.mp hin with ⟨rfl, _⟩ | ⟨xs, _, h⟩
      · refine ⟨(Sym.nt r.lhs, yieldOf (vals.take r.rhs.length)), ?_⟩
        rw [parseFromAux, reduceLoop_reduce hact hdrop hgoto]
        simp
      · simp at h
  | succ n ih =>
    intro st vals toks hr F f hF hf
    obtain _ | f := f
    · omega
    generalize hin : toks ++ [eof] = input at hr
    cases hr with
    | shift _ q ss vals' t t' rest q' hact hrun =>
      rcases List.append_eq_cons_iff.mp hin with ⟨rfl, h⟩ | ⟨xs, rfl, h⟩
      · cases h
      · rw [h] at hrun
        obtain ⟨v, hv⟩ := ih _ _ xs hrun F F (by omega) (by omega)
        refine ⟨v, ?_⟩
        rw [parseFromAux, reduceLoop_shift hact]
        exact parseFrom_eq_aux.trans hv
    | reduce _ q ss vals' t rest r p ss' p' hact hdrop hgoto hrun =>
      rw [← hin] at hrun
      obtain ⟨v, hv⟩ := ih _ _ toks hrun F f (by omega) (by omega)
      -- the token under the reduction is `eof` (end of input, the reduction may accept) or the head of `toks`
      rcases List.append_eq_cons_iff.mp hin with ⟨rfl, h⟩ | ⟨xs, rfl, _⟩
      · obtain ⟨rfl, rfl⟩ := List.cons.inj h
        rw [parseFromAux, reduceLoop_reduce hact hdrop hgoto]
        split
        · exact ⟨_, rfl⟩
        · exact ⟨v, hv⟩
      · rw [parseFromAux, reduceLoop_reduce hact hdrop hgoto]
        simp only [Bool.false_and, Bool.false_eq_true, if_false]
        exact ⟨v, hv⟩

/-- Completeness of the LALR driver for every conflict-free table that passes the closure certificate:
    every sentence of the grammar is accepted (given enough fuel for the reduce loops). -/
theorem parse_complete {G : Grammar} {T : Table} {s0 eof : Nat} {la} (hC : TableClosed G T s0 eof la)
    (toks : List Nat) (h : DerivesSeq G [Sym.nt s0] toks) :
    ∃ F0, ∀ F, F0 < F → ∃ v, parse T eof F toks = Outcome.accept v := by
  obtain ⟨n, hn⟩ := complete_run hC toks h
  refine ⟨n, fun F hF => ?_⟩
  obtain ⟨v, hv⟩ := run_accepts n [T.start] [] toks hn F F hF hF
  exact ⟨v, parseFrom_eq_aux.trans hv⟩


def feedAllAux (T : Table) (F : Nat) : Nat → Config → List Nat → Outcome
  | _, cfg, [] => Outcome.shifted cfg
  | f, cfg, t :: ts =>
    match reduceLoop T t false f cfg with
    | Outcome.shifted cfg' => feedAll T F cfg' ts
    | o => o

theorem feedAll_eq_aux {T : Table} {F : Nat} {cfg : Config} {toks : List Nat} :
    feedAll T F cfg toks = feedAllAux T F F cfg toks := by
  cases toks <;> rfl

/-- along an accepting run, every token of any prefix gets shifted -/
theorem run_shifts_prefix {T : Table} {eof : Nat} : ∀ n st vals pre post,
    Run T eof n (st, vals, pre ++ (post ++ [eof])) →
    ∀ F f, n < F → n < f → ∃ cfg', feedAllAux T F f ⟨st, vals⟩ pre = Outcome.shifted cfg' := by
  intro n st vals pre post hr F f hF hf
  rw [← List.append_assoc] at hr
  obtain ⟨v, hv⟩ := run_accepts n st vals (pre ++ post) hr F f hF hf
  cases pre with
  | nil => exact ⟨_, rfl⟩
  | cons t ts =>
    rw [List.cons_append, parseFromAux] at hv
    rw [feedAllAux]
    split at hv
    · rename_i c1 _
      obtain ⟨cfg', h1, _⟩ := parseFrom_append_accept hv
      exact ⟨cfg', h1⟩
    · cases reduceLoop_accept_end hv

/-- C08 (LALR clause): a token sequence that can be extended to a sentence is consumed without error.
    Contrapositive: `UnexpectedToken` is raised at the *first* token after which no sentence is possible. -/
theorem viable_prefix_shifts {G : Grammar} {T : Table} {s0 eof : Nat} {la} (hC : TableClosed G T s0 eof la)
    (pre post : List Nat) (h : DerivesSeq G [Sym.nt s0] (pre ++ post)) :
    ∃ F0, ∀ F, F0 < F → ∃ cfg', feedAll T F ⟨[T.start], []⟩ pre = Outcome.shifted cfg' := by
  obtain ⟨F0, hF0⟩ := parse_complete hC (pre ++ post) h
  refine ⟨F0, fun F hF => ?_⟩
  obtain ⟨v, hv⟩ := hF0 F hF
  obtain ⟨cfg', hfeed, _⟩ := parseFrom_append_accept hv
  exact ⟨cfg', hfeed⟩

end LRProto
