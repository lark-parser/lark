import LarkVerif.Lexer
import LarkVerif.LexOrder
/-! Executable model of `BasicLexer` / `ContextualLexer` (lark/lexer.py) on top of the list lemmas of `Lexer.lean`.
    The regex engine is a parameter (tables supplied per case by the harness, computed with individually compiled
    patterns — an independent path from lark's combined alternations). -/
namespace LexModel
open LexProto

structure TermInfo where
  name : String
  prio : Int
  maxWidth : Nat
  valueLen : Nat
  isStr : Bool
deriving Repr, Inhabited

def nameLe (a b : TermInfo) : Bool := decide (a.name ≤ b.name)

/-- lexer.py:637 `terminals.sort(key=lambda x: (-x.priority, -x.pattern.max_width, -len(x.pattern.value), x.name))`
    as a comparison: higher priority, then longer maximal width, then longer pattern, then name. -/
def termLe : TermInfo → TermInfo → Bool :=
  lexBy (fun t => t.prio) (lexBy (fun t => (t.maxWidth : Int)) (lexBy (fun t => (t.valueLen : Int)) nameLe))

theorem nameLe_trans (a b c : TermInfo) : nameLe a b = true → nameLe b c = true → nameLe a c = true := by
  unfold nameLe; intro h1 h2
  exact decide_eq_true (String.le_trans (of_decide_eq_true h1) (of_decide_eq_true h2))

theorem nameLe_total (a b : TermInfo) : (nameLe a b || nameLe b a) = true := by
  unfold nameLe
  rcases String.le_total a.name b.name with h | h <;> simp [h]

theorem termLe_trans (a b c : TermInfo) : termLe a b = true → termLe b c = true → termLe a c = true :=
  lexBy_trans (lexBy_trans (lexBy_trans nameLe_trans)) a b c

theorem termLe_total (a b : TermInfo) : (termLe a b || termLe b a) = true :=
  lexBy_total (lexBy_total (lexBy_total nameLe_total)) a b

/-- the terminal table of one lexer instance; terminals are referred to by index -/
structure Lexer where
  terms : Array TermInfo
  /-- (re, str): `str.value == match(re, str.value)`  (lexer.py:387) -/
  selfMatch : List (Nat × Nat)
  /-- (str, re): `str.flags <= re.flags` -/
  flagSub : List (Nat × Nat)
  ignore : List Nat

def Lexer.info (L : Lexer) (i : Nat) : TermInfo := L.terms[i]!

/-- the sorted terminal list restricted to `subset` (a contextual per-state lexer; all ids for the basic lexer) -/
def Lexer.sorted (L : Lexer) (subset : List Nat) : List Nat :=
  subset.mergeSort (fun i j => termLe (L.info i) (L.info j))

theorem sorted_pairwise (L : Lexer) (subset : List Nat) :
    (L.sorted subset).Pairwise (fun i j => termLe (L.info i) (L.info j) = true) :=
  List.pairwise_mergeSort (le := fun i j => termLe (L.info i) (L.info j)) (fun _ _ _ => termLe_trans _ _ _) (fun _ _ => termLe_total _ _) subset

theorem sorted_perm (L : Lexer) (subset : List Nat) : (L.sorted subset).Perm subset :=
  List.mergeSort_perm _ _

/-- `unless` list of a regexp terminal (lexer.py:380-388), in sorted order -/
def Lexer.unlessOf (L : Lexer) (sorted : List Nat) (re : Nat) : List Nat :=
  if (L.info re).isStr then []
  else sorted.filter fun s => (L.info s).isStr && decide ((L.info s).prio = (L.info re).prio) && L.selfMatch.contains (re, s)

theorem unlessOf_mem (L : Lexer) (sorted : List Nat) (re s : Nat) (h : s ∈ L.unlessOf sorted re) :
    (L.info re).isStr = false ∧ (L.info s).isStr = true ∧ (L.info s).prio = (L.info re).prio ∧ (re, s) ∈ L.selfMatch := by
  unfold Lexer.unlessOf at h
  split at h
  · cases h
  · rename_i hre
    simp only [List.mem_filter, Bool.and_eq_true, decide_eq_true_eq, List.contains_iff_mem] at h
    exact ⟨by simpa using hre, h.2.1.1, h.2.1.2, h.2.2⟩

/-- strings removed from the alternation: in some regexp's `unless` list with flags ⊆ the regexp's -/
def Lexer.embedded (L : Lexer) (sorted : List Nat) : List Nat :=
  sorted.filter fun s => sorted.any fun re => (L.unlessOf sorted re).contains s && L.flagSub.contains (s, re)

def Lexer.scanList (L : Lexer) (sorted : List Nat) : List Nat :=
  sorted.filter fun t => !(L.embedded sorted).contains t

/-- regex facts for one text: `mt t pos` = preferred match length; `full s pos len` = string terminal `s` fullmatches `text[pos:pos+len]` -/
structure Facts where
  mt : Matcher
  full : Nat → Nat → Nat → Bool

/-- the type reported for a match of scanner terminal `t` (UnlessCallback, lexer.py:349) -/
def Lexer.retype (L : Lexer) (F : Facts) (sorted : List Nat) (t pos len : Nat) : Nat :=
  match (L.unlessOf sorted t).find? (fun s => F.full s pos len) with
  | some s => s
  | none => t

theorem retype_eq (L : Lexer) (F : Facts) (sorted : List Nat) (t pos len : Nat) :
    (∃ s, (L.unlessOf sorted t).find? (fun s => F.full s pos len) = some s ∧ L.retype F sorted t pos len = s) ∨
    ((L.unlessOf sorted t).find? (fun s => F.full s pos len) = none ∧ L.retype F sorted t pos len = t) := by
  unfold Lexer.retype
  cases (L.unlessOf sorted t).find? (fun s => F.full s pos len) with
  | none => exact .inr ⟨rfl, rfl⟩
  | some s => exact .inl ⟨s, rfl, rfl⟩

/-- string terminals never carry an unless callback, so they are reported as themselves -/
theorem retype_str (L : Lexer) (F : Facts) (sorted : List Nat) (t pos len : Nat) (h : (L.info t).isStr = true) :
    L.retype F sorted t pos len = t := by
  simp [Lexer.retype, Lexer.unlessOf, h]

inductive LexErr where
  | chars (pos : Nat) (allowed : List Nat)              -- UnexpectedCharacters
  | token (ty pos len : Nat) (allowed : List Nat)       -- contextual: root lexer found a token the parser cannot accept
deriving Repr

/-- one `next_token` of a (sub)lexer: skips ignored matches; returns the reported piece or an error or EOF -/
def Lexer.nextToken (L : Lexer) (F : Facts) (subset : List Nat) (n : Nat) : Nat → Nat → Except LexErr (Option (Piece × Nat))
  | 0, _ => .ok none
  | fuel+1, pos =>
    if pos < n then
      let sorted := L.sorted subset
      match firstMatch F.mt pos (L.scanList sorted) with
      | none => .error (.chars pos (sorted.filter (fun t => !L.ignore.contains t)))      -- every terminal of this lexer, embedded keywords included (finding F35, fixed)
      | some (t, len) =>
        let ty := L.retype F sorted t pos len
        if L.ignore.contains ty then L.nextToken F subset n fuel (pos + max len 1)
        else .ok (some ((ty, pos, len), pos + max len 1))
    else .ok none

/-- the basic lexer run to the end of the text -/
def Lexer.lexBasic (L : Lexer) (F : Facts) (all : List Nat) (n : Nat) : Nat → Nat → List Piece × Option LexErr
  | 0, _ => ([], none)
  | fuel+1, pos =>
    match L.nextToken F all n (n + 1) pos with
    | .error e => ([], some e)
    | .ok none => ([], none)
    | .ok (some (pc, pos')) =>
      let (ps, e) := L.lexBasic F all n fuel pos'
      (pc :: ps, e)

/-- contextual lexer: `subsets k` is the terminal set of the parser state before the k-th token
    (state terminals ∪ ignore ∪ always_accept, lexer.py:753); on failure the root lexer is consulted (lexer.py:772-780) -/
def Lexer.lexCtx (L : Lexer) (F : Facts) (all : List Nat) (n : Nat) : List (List Nat) → Nat → List Piece × Option LexErr
  | [], _ => ([], none)
  | sub :: subs, pos =>
    match L.nextToken F sub n (n + 1) pos with
    | .ok none => ([], none)
    | .ok (some (pc, pos')) =>
      let (ps, e) := L.lexCtx F all n subs pos'
      (pc :: ps, e)
    | .error (.chars p allowed) =>
      match L.nextToken F all n (n + 1) p with
      | .ok (some ((ty, q, len), _)) => ([], some (.token ty q len allowed))
      | _ => ([], some (.chars p allowed))
    | .error e => ([], some e)

end LexModel
