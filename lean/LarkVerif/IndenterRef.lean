import LarkVerif.Indenter
/-! C18: the Indenter's `handle_NL` (a pop loop) computes exactly what the Python language reference prescribes for the indentation stack,
    stated declaratively (membership, filters) — under the invariant that the stack is strictly decreasing from the top, which every reachable state satisfies. -/
namespace IndProto

/-- the stack of open indentation levels, top first, is strictly decreasing and ends in 0 … we only need strictness -/
def Decr (l : List Nat) : Prop := l.Pairwise (· > ·)

/-- Python language reference §2.1.8, one logical line: `(number of INDENTs, number of DEDENTs, new stack)` or an error -/
def refLine (levels : List Nat) (indent : Nat) : Except Err (Nat × Nat × List Nat) :=
  match levels with
  | [] => .error .assertFail
  | top :: _ =>
    if indent > top then .ok (1, 0, indent :: levels)
    else if indent ∈ levels then .ok (0, (levels.filter (· > indent)).length, levels.filter (· ≤ indent))
    else .error .dedentError

theorem Decr.le_top {top : Nat} {rest : List Nat} (hd : Decr (top :: rest)) : ∀ x ∈ top :: rest, x ≤ top :=
  List.forall_mem_cons.mpr ⟨Nat.le_refl _, fun _ hx => Nat.le_of_lt (List.rel_of_pairwise_cons hd hx)⟩

theorem popWhile_eq_filter (indent : Nat) {l : List Nat} (hd : Decr l) :
    popWhile indent l = (l.filter (· ≤ indent), (l.filter (· > indent)).length) := by
  fun_induction popWhile indent l with
  | case1 => rfl
  | case2 top rest h s k hpop ih =>
    obtain ⟨rfl, rfl⟩ := Prod.mk.inj (hpop.symm.trans (ih hd.of_cons))
    rw [List.filter_cons_of_neg (by simpa using h), List.filter_cons_of_pos (by simpa using h)]; rfl
  | case3 top rest h =>
    have hle : ∀ x ∈ top :: rest, x ≤ indent := fun x hx => Nat.le_trans (hd.le_top x hx) (Nat.not_lt.mp h)
    rw [List.filter_eq_self.mpr fun x hx => decide_eq_true (hle x hx),
      List.filter_eq_nil_iff.mpr fun x hx hgt => Nat.not_lt.mpr (hle x hx) (of_decide_eq_true hgt)]; rfl

theorem filter_le_head_eq_iff (indent : Nat) {l : List Nat} (hd : Decr l) :
    (l.filter (· ≤ indent)).head? = some indent ↔ indent ∈ l := by
  rw [List.head?_filter]
  refine ⟨List.mem_of_find?_eq_some, fun h => ?_⟩
  -- `indent` is the first level `≤ indent`: whatever stands above it in a strictly decreasing stack is larger
  obtain ⟨as, bs, rfl⟩ := List.append_of_mem h
  exact List.find?_eq_some_iff_append.mpr ⟨by simp, as, bs, rfl, fun a ha => by
    simpa using (List.pairwise_append.mp hd).2.2 a ha indent List.mem_cons_self⟩

/-- C18, `handle_NL` is the reference algorithm: read in full at `Props.C18.handle_nl_is_reference` -/
theorem handleNL_eq_ref (st : St) (indent : Nat) (hp : st.paren = 0) (hd : Decr st.levels) (h0 : 0 ∈ st.levels) :
    handleNL st indent =
      match refLine st.levels indent with
      | .error e => .error e
      | .ok (i, d, lv) => .ok (Ev.tok (.nl indent) :: (List.replicate i Ev.indent ++ List.replicate d Ev.dedent), { st with levels := lv }) := by
  have hpop := popWhile_eq_filter indent hd
  have hiff := filter_le_head_eq_iff indent hd
  -- along the branches of `handleNL` (listed at `stepTok_ok`); in the last three the pop loop has run, and is the two filters
  fun_cases handleNL st indent with
  | case1 hp' => omega
  | case2 _ hl => rw [hl] at h0; cases h0
  | case3 _ top rest hl hgt => rw [hl]; simp [refLine, hgt]
  | case4 _ _ _ _ _ k hpw =>
    -- the bottom level 0 is never popped
    exact (List.filter_eq_nil_iff.mp (Prod.mk.inj (hpop.symm.trans hpw)).1 0 h0 (by simp)).elim
  | case5 _ top rest hl hgt k top' rest' he hpw =>
    rw [(Prod.mk.inj (hpop.symm.trans hpw)).1] at hiff
    have hm : indent ∉ st.levels := fun hm => he (Option.some.inj (hiff.mpr hm)).symm
    rw [hl] at hm ⊢
    simp [refLine, hgt, hm]
  | case6 _ top rest hl hgt k top' rest' he hpw =>
    obtain ⟨hf, rfl⟩ := Prod.mk.inj (hpop.symm.trans hpw)
    rw [hf] at hiff
    have hm : indent ∈ st.levels := hiff.mp (congrArg some (Decidable.of_not_not he).symm)
    rw [hl] at hm hf ⊢
    simp [refLine, hgt, hm, hf]

theorem stepTok_inv {st st' : St} {t : Tok} {out : List Ev} (h : stepTok st t = .ok (out, st')) (hd : Decr st.levels) (h0 : 0 ∈ st.levels) :
    Decr st'.levels ∧ 0 ∈ st'.levels := by
  rcases stepTok_ok h with ⟨hl, _⟩ | ⟨indent, top, rest, hs, hgt, hl, _⟩ | ⟨indent, hl, _⟩
  · rw [hl]; exact ⟨hd, h0⟩
  · rw [hl, hs]; rw [hs] at hd h0
    exact ⟨List.pairwise_cons.mpr ⟨fun x hx => Nat.lt_of_le_of_lt (hd.le_top x hx) hgt, hd⟩, List.mem_cons_of_mem _ h0⟩
  · rw [hl, popWhile_eq_filter indent hd]
    exact ⟨List.Pairwise.filter _ hd, List.mem_filter.mpr ⟨h0, by simp⟩⟩

end IndProto
