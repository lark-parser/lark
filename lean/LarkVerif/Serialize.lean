namespace SerProto

/-- the Python values `Serialize` moves around (a dict is its key list and its value list) -/
inductive PV where
  | none
  | int (n : Int)
  | str (s : String)
  | list (l : List PV)
  | dict (ks : List String) (vs : List PV)
  | fset (l : List PV)        -- a frozenset, as the list of its elements in iteration order

/-- lark/utils.py:350 `_serialize` on plain data: frozensets become lists ("TODO reversible?") -/
def ser : PV → PV
  | .none => .none
  | .int n => .int n
  | .str s => .str s
  | .list l => .list (l.map ser)
  | .dict ks vs => .dict ks (vs.map ser)
  | .fset l => .list l          -- `list(value)`: the elements (strings in lark) are not recursed into

/-- lark/utils.py:37 `_deserialize` on plain data (no `__type__`, no `@`): structure-preserving -/
def deser : PV → PV
  | .none => .none
  | .int n => .int n
  | .str s => .str s
  | .list l => .list (l.map deser)
  | .dict ks vs => .dict ks (vs.map deser)
  | .fset l => .fset l

/-- values that contain no frozenset anywhere -/
inductive NoFset : PV → Prop
  | none : NoFset .none
  | int (n) : NoFset (.int n)
  | str (s) : NoFset (.str s)
  | list (l) : (∀ x ∈ l, NoFset x) → NoFset (.list l)
  | dict (ks vs) : (∀ x ∈ vs, NoFset x) → NoFset (.dict ks vs)

theorem map_roundtrip {l : List PV} (h : ∀ x ∈ l, deser (ser x) = x) : (l.map ser).map deser = l := by
  rw [List.map_map]
  exact (List.map_congr_left h).trans (List.map_id l)

/-- the round trip is the identity away from frozensets -/
theorem roundtrip_of_noFset {v : PV} (h : NoFset v) : deser (ser v) = v := by
  induction h with
  | list l _ ih => rw [ser, deser, map_roundtrip ih]
  | dict ks vs _ ih => rw [ser, deser, map_roundtrip ih]
  | _ => rw [ser, deser]

/-- and it is *not* the identity on a frozenset: `Pattern.flags` comes back as a list (F3) -/
theorem roundtrip_fset (l : List PV) : deser (ser (.fset l)) = .list (l.map deser) ∧ deser (ser (.fset l)) ≠ .fset l := by
  rw [ser, deser]
  exact ⟨rfl, PV.noConfusion⟩

/-- the repair: a per-class hook that re-wraps the listed field -/
def restoreFlags : PV → PV
  | .list l => .fset l
  | v => v

theorem roundtrip_flags_fixed (flags : List String) :
    restoreFlags (deser (ser (.fset (flags.map .str)))) = .fset (flags.map .str) := by
  simp only [ser, deser, restoreFlags, List.map_map]
  congr 1
  apply List.map_congr_left
  intro s _
  simp [deser]

/-- why the type matters downstream: `flags <= flags` is subset on frozensets but lexicographic on lists
    (lexer.py:384) — the concrete pair from F3: {"i"} is not a subset of {"s"}, yet ["i"] <= ["s"] -/
example : ¬ ((["i"] : List String) ⊆ ["s"]) := by simp
example : decide ((["i"] : List String) ≤ ["s"]) = true := by decide

end SerProto
