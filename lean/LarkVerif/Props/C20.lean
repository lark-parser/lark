import LarkVerif.ForestVisit
import LarkVerif.ForestCert
/-! # C20 — the parse forest encodes exactly the derivations; every walk of it terminates and reports cycles

Completeness of the forest is shared with C04 (`Props.C04.every_derivation_is_in_the_forest`).  This file holds the clauses that are C20's own:
"visitors terminate and report cycles rather than looping, even on cyclic grammars". -/
namespace Props.C20
open VisitProto

/-- **Every forest walk terminates, on every finite node graph, cyclic or not.**  `VisitProto.visit` is the loop of `ForestVisitor.visit`
    (lark/parsers/earley_forest.py:274) as a total function: Lean accepted its definition with the measure (nodes not on the path, children still to
    hand out), so it has a value — a *finite* event list — for every graph.  Stated outright: the walk of any graph from any root under either
    `single_visit` setting is some finite list of events. -/
theorem walk_terminates (g : Graph) (sv : Bool) (root : Nat) : ∃ evs : List Ev, visit g sv root = evs := ⟨_, rfl⟩

/-- **The walk is a proper depth-first walk that retreats from cycles and reports them**: replaying its events against an initially empty path never
    enters a node that is on the path (no looping), closes every `in` with its `out` innermost-first, calls `on_cycle` only for a node that is on the
    path at that moment, and ends with the empty path. -/
theorem walk_is_depth_first_and_reports_cycles (g : Graph) (sv : Bool) (root : Nat) : replay [] (visit g sv root) = some [] :=
  visit_is_depth_first g sv root

/-- **`single_visit=True` enters every node at most once** (what `ForestSumVisitor` — the priority computation behind C05 — relies on). -/
theorem single_visit_enters_each_node_once (g : Graph) (root : Nat) : (entered (visit g true root)).Nodup :=
  single_visit_enters_once g [] [] [root]

/-- the same two facts below any iterator in the middle of a walk (what the induction is about) -/
theorem sub_walk_restores_the_path (g : Graph) (sv : Bool) (path visited cs : List Nat) :
    replay path (visitKids g sv path visited cs).1 = some path := visitKids_replay g sv path visited cs

/-- non-vacuity: on the cyclic graph `0 → 1 → {token 2, 0}` the walk enters 0 and 1, visits the token, reports the cycle back to 0 and leaves -/
example : visit exGraph false 0 = [Ev.enter 0, Ev.enter 1, Ev.tok 2, Ev.cycle 0, Ev.leave 1, Ev.leave 0] := by
  simp [visit, visitKids, exGraph]

/-- **Soundness of the forest, certified per forest.**  When the local checker `ForestCert.checkForest` accepts the node graph exported from the real parser
    (every packed family: its rule is a rule of the grammar, the node's label fixes the dot, the right child is the symbol before the dot — a token that is an
    edge of the lattice or a symbol node of that nonterminal —, the left child is the intermediate node of the same rule one symbol earlier ending where the
    right child starts, and the node's end is reachable from the family's end over ignored text), then *every* tree that can be read from the root — however
    many there are, the forest may be cyclic — is a derivation of the start symbol whose tokens spell a path through the input from the root's start to its
    end. Together with `Props.C04.every_derivation_is_in_the_forest` the certified forest encodes exactly the parses. -/
theorem certified_forest_encodes_only_parses (G : EarleyProto.Grammar) (L : EarleyProto.FLattice) (F : ForestCert.Forest) (fuel : Nat)
    (h : ForestCert.checkForest G L F fuel = true) (root start : Nat) (hroot : (F.node root).lbl = ForestCert.Lbl.sym start) (ws : List Nat)
    (hr : ForestCert.Reads F root ws) :
    EarleyProto.Path L.toLattice (F.node root).s (F.node root).e ws ∧ EarleyProto.DerivesSeq G [EarleyProto.Sym.nt start] ws :=
  ForestCert.certified_root_trees_are_parses G L F fuel h root start hroot ws hr

/-- … and the same for every node of the forest, for what its label stands for -/
theorem certified_forest_nodes_sound (G : EarleyProto.Grammar) (L : EarleyProto.FLattice) (F : ForestCert.Forest) (fuel : Nat)
    (h : ForestCert.checkForest G L F fuel = true) (n : Nat) (ws : List Nat) (hr : ForestCert.Reads F n ws) : ForestCert.Claim G L F n ws :=
  ForestCert.forest_sound G L F fuel h n ws hr

end Props.C20
