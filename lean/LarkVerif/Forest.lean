import LarkVerif.Earley
namespace EarleyProto

/-- derivation trees with their spans over the lattice (first-order: a forest for a list of symbols) -/
inductive SD (G : Grammar) (L : Lattice) : List Sym → Nat → Nat → Type
  | nil (i : Nat) : SD G L [] i i
  | term (a : Nat) (rest : List Sym) (i i' j k : Nat) : IgnStar L i i' → L.edge a i' j → SD G L rest j k →
      SD G L (Sym.t a :: rest) i k
  | nonterm (r : Rule) (rest : List Sym) (i j k : Nat) : r ∈ G.rules → SD G L r.rhs i j → SD G L rest j k →
      SD G L (Sym.nt r.lhs :: rest) i k

/-- "this (partial) derivation is present in the SPPF": walking it from the item `⟨r,d,k⟩` at column `i`,
    every intermediate LR(0) position is a chart fact at its column — these are exactly the facts from which
    earley.py:98-160 creates the intermediate/symbol nodes and their packed families — and every nonterminal
    child is present in the same sense, started from its predicted item -/
def InForest {G : Grammar} {L : Lattice} (start : Nat) : {β : List Sym} → {i j : Nat} → SD G L β i j →
    Rule → Nat → Nat → Prop
  | _, i, _, SD.nil _, r, d, k => Chart G L start i ⟨r, d, k⟩
  | _, i, _, SD.term _ _ _ _ j _ _ _ rest, r, d, k =>
      Chart G L start i ⟨r, d, k⟩ ∧ InForest start rest r (d+1) k
  | _, i, _, SD.nonterm r' _ _ _ _ _ body rest, r, d, k =>
      Chart G L start i ⟨r, d, k⟩ ∧ InForest start body r' 0 i ∧ InForest start rest r (d+1) k

/-- the last item reached by the walk -/
theorem InForest.lastItem {G : Grammar} {L : Lattice} {start : Nat} : ∀ {β : List Sym} {i j : Nat} (sd : SD G L β i j)
    {r : Rule} {d k : Nat}, InForest start sd r d k → Chart G L start j ⟨r, d + β.length, k⟩ := by
  intro β i j sd
  induction sd with
  | nil i => intro r d k h; exact h
  | term a rest i i' j k _ _ sd' ih => intro r d k' h; exact Nat.add_right_comm d 1 rest.length ▸ ih h.2
  | nonterm r' rest i j k _ body sd' _ ih2 => intro r d k' h; exact Nat.add_right_comm d 1 rest.length ▸ ih2 h.2.2

/-- C04 / C20, completeness of the forest: every derivation of the input below a chart item is present. -/
theorem forest_complete {G : Grammar} {L : Lattice} {start : Nat} :
    ∀ {β : List Sym} {i j : Nat} (sd : SD G L β i j) {r : Rule} {d k : Nat} (γ : List Sym),
      Chart G L start i ⟨r, d, k⟩ → r.rhs.drop d = β ++ γ → InForest start sd r d k := by
  intro β i j sd
  induction sd with
  | nil i => intro r d k γ hc _; exact hc
  | term a rest i i' j k hi he sd' ih =>
    intro r d k' γ hc hdrop
    obtain ⟨hd, hdrop'⟩ := drop_eq_cons_iff.mp hdrop
    exact ⟨hc, ih γ (hc.overTerm hd hi he) hdrop'⟩
  | nonterm r' rest i j k hr' body sd' ih1 ih2 =>
    intro r d k' γ hc hdrop
    obtain ⟨hd, hdrop'⟩ := drop_eq_cons_iff.mp hdrop
    have hbody := ih1 [] (Chart.predict i r d k' r' hc hd hr') (by simp)
    have hfull := Nat.zero_add r'.rhs.length ▸ InForest.lastItem body hbody
    exact ⟨hc, hbody, ih2 γ (Chart.complete j i r' r d k' hfull hc hd) hdrop'⟩

/-- in particular: every full derivation of the start symbol over the whole input is in the forest -/
theorem forest_complete_root {G : Grammar} {L : Lattice} {start : Nat} (r : Rule) (hr : r ∈ G.rules) (hs : r.lhs = start)
    {m : Nat} (sd : SD G L r.rhs 0 m) : InForest start sd r 0 0 :=
  forest_complete sd [] (Chart.init r hr hs) (by simp)

end EarleyProto
