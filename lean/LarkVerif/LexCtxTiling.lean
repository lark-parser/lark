import LarkVerif.LexEmit
/-! C07: tiling theorem for the *contextual* lexer model `lexCtx` (`ContextualLexer.lex`: one `next_token` of the sub-lexer of the parser's current
    state per emitted token).  Between two emitted tokens the state — hence the sub-lexer — is fixed, so the run decomposes into stretches
    "ignored pieces of sub-lexer k, then one emitted piece of sub-lexer k", each as `nextToken_tiles` describes it. -/
namespace LexModel
open LexProto

/-- stretches of a contextual run: `(k-th sub-lexer's skipped pieces, emitted piece)` per emitted token -/
inductive CtxTiles (L : Lexer) (F : Facts) : List (List Nat) → Nat → List Piece → Nat → Prop
  | nil (subs p) : CtxTiles L F subs p [] p
  | cons (sub subs p p' q pc ps) (skipped : List Piece') :
      Tiles' p (skipped ++ [(pc.1, pc.2.1, pc.2.2, false)]) p' →
      (∀ x ∈ skipped, x.2.2.2 = true ∧ PieceOf L F sub x) → PieceOf L F sub (pc.1, pc.2.1, pc.2.2, false) →
      CtxTiles L F subs p' ps q → CtxTiles L F (sub :: subs) p (pc :: ps) q

/-- how a contextual run ended, given the position `q` after the last emitted token and the remaining sub-lexers -/
def CtxEnd (L : Lexer) (F : Facts) (all : List Nat) (n : Nat) (subs : List (List Nat)) (q : Nat) : Option LexErr → Prop
  | none => True                                  -- end of text (or the driver stopped asking)
  | some (.chars p allowed) =>                    -- UnexpectedCharacters at `p`: neither the state's sub-lexer nor the root lexer has a match there
      ∃ sub rest skipped, subs = sub :: rest ∧ Tiles' q skipped p ∧ p < n ∧ (∀ x ∈ skipped, x.2.2.2 = true ∧ PieceOf L F sub x) ∧
        firstMatch F.mt p (L.scanList (L.sorted sub)) = none ∧ allowed = L.allowed sub ∧
        (∀ pc pos', L.nextToken F all n (n + 1) p ≠ .ok (some (pc, pos')))
  | some (.token ty p' len allowed) =>            -- UnexpectedToken: the root lexer does find a token where the state's sub-lexer is stuck
      ∃ sub rest skipped p, subs = sub :: rest ∧ Tiles' q skipped p ∧ p < n ∧ (∀ x ∈ skipped, x.2.2.2 = true ∧ PieceOf L F sub x) ∧
        firstMatch F.mt p (L.scanList (L.sorted sub)) = none ∧ allowed = L.allowed sub ∧
        ∃ pos', L.nextToken F all n (n + 1) p = .ok (some ((ty, p', len), pos'))

theorem lexCtx_tiles (L : Lexer) (F : Facts) (all : List Nat) (n : Nat)
    (hpos : ∀ t p len, F.mt t p = some len → 0 < len ∧ p + len ≤ n) :
    ∀ subs pos, pos ≤ n →
      ∃ q used rest, subs = used ++ rest ∧ used.length = (L.lexCtx F all n subs pos).1.length ∧
        CtxTiles L F used pos (L.lexCtx F all n subs pos).1 q ∧ q ≤ n ∧ CtxEnd L F all n rest q (L.lexCtx F all n subs pos).2 := by
  intro subs
  induction subs with
  | nil => intro pos h; exact ⟨pos, [], [], rfl, rfl, CtxTiles.nil [] pos, h, trivial⟩
  | cons sub subs ih =>
    intro pos h
    obtain ⟨sk, p, hsk, hp⟩ := nextToken_tiles (L := L) (subset := sub) hpos (n + 1) pos h (Nat.le_succ_of_le (Nat.sub_le ..))
    rw [Lexer.lexCtx]
    generalize L.nextToken F sub n (n + 1) pos = r at hp
    cases hp with
    | @tok _ ty len hl hle hpc =>
      obtain ⟨q, used, rest, hsub, hlen, hct, hq, hend⟩ := ih (p + len) hle
      exact ⟨q, sub :: used, rest, congrArg (sub :: ·) hsub, congrArg (· + 1) hlen,
        .cons sub used pos _ q (ty, p, len) _ sk (hsk.1.append (.cons _ p len _ _ _ hl (.nil _))) hsk.2 hpc hct, hq, hend⟩
    | stuck hp hnone =>
      -- the sub-lexer is stuck at `p`: the root lexer decides between `UnexpectedToken` and `UnexpectedCharacters`
      refine ⟨pos, [], sub :: subs, rfl, ?_⟩
      dsimp only
      split
      · rename_i ty q len pos' hroot
        exact ⟨rfl, .nil _ _, h, sub, subs, sk, p, rfl, hsk.1, hp, hsk.2, hnone, rfl, pos', hroot⟩
      · rename_i hroot
        exact ⟨rfl, .nil _ _, h, sub, subs, sk, rfl, hsk.1, hp, hsk.2, hnone, rfl, fun pc pos' hc => hroot _ _ _ _ hc⟩
    | eof => exact ⟨pos, [], sub :: subs, rfl, rfl, .nil _ _, h, trivial⟩

end LexModel
