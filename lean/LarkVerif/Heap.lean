import LarkVerif.Shape
namespace HeapProto
open ShapeProto

abbrev Ref := Nat

/-- a value as Python holds it: tokens are immutable, a `Tree` points to its mutable `children` list -/
inductive HV where
  | tok (ty v : Nat)
  | tree (data : Nat) (kids : Ref)
  | none
deriving DecidableEq

abbrev Heap := Ref → List HV

/-- list objects reachable from a value, to depth `f` -/
def reach (h : Heap) : Nat → HV → List Ref
  | _, HV.tok _ _ => []
  | _, HV.none => []
  | 0, HV.tree _ r => [r]
  | f+1, HV.tree _ r => r :: (h r).flatMap (reach h f)

/-- the pure value a heap value denotes (needs fuel: the heap could be cyclic) -/
def den (h : Heap) : Nat → HV → Option Val
  | _, HV.tok ty v => some (Val.tok ty v)
  | _, HV.none => some Val.none
  | 0, HV.tree _ _ => Option.none
  | f+1, HV.tree d r => ((h r).mapM (den h f)).map (Val.tree d)

theorem mapM_congr {α β} (f g : α → Option β) (l : List α) (h : ∀ x ∈ l, f x = g x) : l.mapM f = l.mapM g := by
  induction l with
  | nil => rfl
  | cons a l ih =>
    simp only [List.mapM_cons]
    rw [h a (List.mem_cons_self ..), ih (fun x hx => h x (List.mem_cons_of_mem _ hx))]

/-- FRAME, for both readings of a value at once: which list objects it reaches and what it denotes depend only on the list objects reachable from it -/
theorem frame (h h' : Heap) : ∀ (f : Nat) (v : HV), (∀ r ∈ reach h f v, h r = h' r) →
    reach h f v = reach h' f v ∧ den h f v = den h' f v := by
  intro f
  induction f with
  | zero => intro v _; cases v <;> exact ⟨rfl, rfl⟩
  | succ f ih =>
    intro v hag
    cases v with
    | tok ty v => exact ⟨rfl, rfl⟩
    | none => exact ⟨rfl, rfl⟩
    | tree d r =>
      have hr : h r = h' r := hag r (List.mem_cons_self ..)
      have ihk : ∀ x ∈ h r, reach h f x = reach h' f x ∧ den h f x = den h' f x := fun x hx =>
        ih x fun r' hr' => hag r' (List.mem_cons_of_mem _ (List.mem_flatMap.mpr ⟨x, hx, hr'⟩))
      simp only [reach, den, ← hr, List.flatMap_def]
      rw [List.map_congr_left fun x hx => (ihk x hx).1, mapM_congr _ _ _ fun x hx => (ihk x hx).2]
      exact ⟨rfl, rfl⟩

/-- FRAME: the denotation of a value depends only on the list objects reachable from it -/
theorem den_frame (h h' : Heap) : ∀ (f : Nat) (v : HV), (∀ r ∈ reach h f v, h r = h' r) → den h f v = den h' f v :=
  fun f v hag => (frame h h' f v hag).2

/-- `filtered = children[i].children; filtered += extra` (parse_tree_builder.py:126-131): the list object `r`
    is extended in place and adopted by the new node -/
def appendInPlace (h : Heap) (r : Ref) (extra : List HV) : Heap :=
  fun r' => if r' = r then h r ++ extra else h r'

theorem appendInPlace_of_ne {r r' : Ref} (h : Heap) (extra : List HV) (hne : r' ≠ r) : appendInPlace h r extra r' = h r' := if_neg hne

/-- a value that does not reach the extended list object does not see the append -/
theorem den_appendInPlace (h : Heap) (r : Ref) (extra : List HV) (f : Nat) (v : HV) (hr : r ∉ reach h f v) :
    den (appendInPlace h r extra) f v = den h f v :=
  (den_frame h _ f v fun r' hr' => (appendInPlace_of_ne h extra fun e : r' = r => hr (e ▸ hr')).symm).symm

/-- C13: a parser state whose reachable objects do not include the mutated list keeps its denotation —
    what a deep copy buys, and why the in-place reuse is invisible to forks -/
theorem fork_unaffected (h : Heap) (r : Ref) (extra : List HV) (f : Nat) (stackB : List HV)
    (hdisj : ∀ v ∈ stackB, r ∉ reach h f v) :
    ∀ v ∈ stackB, den (appendInPlace h r extra) f v = den h f v :=
  fun v hv => den_appendInPlace h r extra f v (hdisj v hv)

/-- and the fork that did the reduction gets the pure result: if the adopted list's old elements and the
    appended values do not reach `r` themselves (no sharing — a tree-shaped value stack), the new node denotes
    `Tree(name, old_children ++ extra)` -/
theorem adopt_den (h : Heap) (r : Ref) (extra : List HV) (f name : Nat) (olds news : List Val)
    (hold : (h r).mapM (den h f) = some olds) (hnew : extra.mapM (den h f) = some news)
    (hsep : ∀ v ∈ h r ++ extra, r ∉ reach h f v) :
    den (appendInPlace h r extra) (f+1) (HV.tree name r) = some (Val.tree name (olds ++ news)) := by
  have hlist : appendInPlace h r extra r = h r ++ extra := if_pos rfl
  simp only [den, hlist]
  rw [mapM_congr _ _ _ fun v hv => den_appendInPlace h r extra f v (hsep v hv), List.mapM_append, hold, hnew]
  rfl

end HeapProto
