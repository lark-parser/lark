namespace CacheProto

/-- a request: grammar text + options (one abstract value `g`), and the current contents of the imported files -/
structure Req where
  g : Nat
  imp : Nat
deriving DecidableEq

/-- what is on disk under the cache path -/
inductive File where
  | absent
  | bad                                   -- anything that fails before `_load` completes: truncated, garbage, undecodable
  | good (hdr : Nat) (used : Nat) (payload : Nat)   -- sha256 line, used-file hashes, pickled parser data
deriving DecidableEq

/-- the environment the model is parametric in -/
structure Env where
  key : Nat → Nat          -- lark.py:348 cache key of (grammar, options, version)
  hash : Nat → Nat         -- load_grammar.py:1327 digest of the imported files' contents
  build : Req → Nat        -- an uncached construction
  key_inj : ∀ a b, key a = key b → a = b
  hash_inj : ∀ a b, hash a = hash b → a = b

/-- lark.py:369-390 + 480-489: try the cache, otherwise build and rewrite -/
def openCached (E : Env) (f : File) (r : Req) : Nat × File :=
  match f with
  | File.good hdr used payload =>
      if hdr = E.key r.g ∧ used = E.hash r.imp then (payload, f)
      else (E.build r, File.good (E.key r.g) (E.hash r.imp) (E.build r))
  | _ => (E.build r, File.good (E.key r.g) (E.hash r.imp) (E.build r))

/-- everything that can happen to the file between two constructions -/
inductive Op where
  | open_ (r : Req)            -- a completed `Lark(..., cache=path)`
  | openCrash (r : Req)        -- the process dies while writing: some prefix is left behind
  | truncate                   -- external truncation at any offset
  | delete
  | foreign (r : Req)          -- a complete file written by lark for some other (grammar, options, imports)

def step (E : Env) (f : File) : Op → File × Option (Req × Nat)
  | Op.open_ r => let (p, f') := openCached E f r; (f', some (r, p))
  | Op.openCrash r =>
      match f with
      | File.good hdr used _ => if hdr = E.key r.g ∧ used = E.hash r.imp then (f, none) else (File.bad, none)
      | _ => (File.bad, none)
  | Op.truncate => (match f with | File.absent => File.absent | _ => File.bad, none)
  | Op.delete => (File.absent, none)
  | Op.foreign r => (File.good (E.key r.g) (E.hash r.imp) (E.build r), none)

/-- every decodable file was written by lark for *some* request -/
def Inv (E : Env) : File → Prop
  | File.good hdr used payload => ∃ r : Req, hdr = E.key r.g ∧ used = E.hash r.imp ∧ payload = E.build r
  | _ => True

/-- The cache is transparent.  A hit is the only case with an argument: the header names the request (`key`, `hash` injective), so the payload is its build. -/
theorem openCached_eq (E : Env) (f : File) (r : Req) (h : Inv E f) :
    openCached E f r = (E.build r, File.good (E.key r.g) (E.hash r.imp) (E.build r)) := by
  cases f with
  | good hdr used payload =>
    simp only [openCached]
    split
    · rename_i hc
      obtain ⟨⟨g, imp⟩, h1, h2, h3⟩ := h
      obtain ⟨rg, rimp⟩ := r
      cases E.key_inj _ _ (h1 ▸ hc.1)
      cases E.hash_inj _ _ (h2 ▸ hc.2)
      rw [h1, h2, h3]
    · rfl
  | absent => rfl
  | bad => rfl

theorem step_openCrash (E : Env) (f : File) (r : Req) : step E f (.openCrash r) = (f, none) ∨ step E f (.openCrash r) = (File.bad, none) := by
  cases f with
  | good hdr used payload =>
    simp only [step]
    split
    · exact .inl rfl
    · exact .inr rfl
  | absent => exact .inr rfl
  | bad => exact .inr rfl

theorem step_spec (E : Env) (f : File) (op : Op) (h : Inv E f) :
    Inv E (step E f op).1 ∧ ∀ ro, (step E f op).2 = some ro → ro.2 = E.build ro.1 := by
  cases op with
  | open_ r => simp only [step, openCached_eq E f r h]; exact ⟨⟨r, rfl, rfl, rfl⟩, fun _ e => by cases e; rfl⟩
  | openCrash r =>
    rcases step_openCrash E f r with h' | h'
    · rw [h']; exact ⟨h, nofun⟩
    · rw [h']; exact ⟨trivial, nofun⟩
  | truncate => exact ⟨by cases f <;> trivial, nofun⟩
  | delete => exact ⟨trivial, nofun⟩
  | foreign r => exact ⟨⟨r, rfl, rfl, rfl⟩, nofun⟩

def run (E : Env) : File → List Op → File × List (Req × Nat)
  | f, [] => (f, [])
  | f, op :: ops =>
    let (f', o) := step E f op
    let (f'', outs) := run E f' ops
    (f'', match o with | some x => x :: outs | none => outs)

/-- C12: for every history of constructions, crashes, truncations, deletions and foreign files,
    every completed construction behaves like an uncached build. -/
theorem cache_refines_build (E : Env) : ∀ (ops : List Op) (f : File), Inv E f →
    ∀ ro ∈ (run E f ops).2, ro.2 = E.build ro.1 := by
  intro ops
  induction ops with
  | nil => intro f _ ro h; cases h
  | cons op ops ih =>
    intro f hinv ro hro
    obtain ⟨hinv', hout⟩ := step_spec E f op hinv
    simp only [run] at hro
    cases ho : (step E f op).2 with
    | none => rw [ho] at hro; exact ih _ hinv' ro hro
    | some x =>
      rw [ho] at hro
      rcases List.mem_cons.mp hro with rfl | h
      · exact hout _ ho
      · exact ih _ hinv' ro h

/-- without injectivity of the key the theorem is false: F4's collision, abstractly -/
example : ∃ (key : Nat → Nat) (build : Req → Nat) (f : File) (r : Req),
    (∃ r' : Req, f = File.good (key r'.g) 0 (build r')) ∧
    (match f with | File.good _ _ p => p | _ => build r) ≠ build r :=
  ⟨fun _ => 0, fun r => r.g, File.good 0 0 1, ⟨2, 0⟩, ⟨⟨1, 0⟩, rfl⟩, by decide⟩

end CacheProto
