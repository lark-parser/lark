import LarkVerif.Earley
namespace EarleyProto

/-- renaming of nonterminals by `f` (terminals keep their names here; `%import … -> NEW` on terminals is the
    same lemma with the roles swapped) -/
def Sym.rename (f : Nat → Nat) : Sym → Sym
  | Sym.t a => Sym.t a
  | Sym.nt A => Sym.nt (f A)

def Rule.rename (f : Nat → Nat) (r : Rule) : Rule := ⟨f r.lhs, r.rhs.map (Sym.rename f)⟩
def Grammar.rename (f : Nat → Nat) (G : Grammar) : Grammar := ⟨G.rules.map (Rule.rename f)⟩

/-- load_grammar.py:1032 `_get_mangle` applied to every definition: derivations carry over -/
theorem DerivesSeq.rename {G : Grammar} (f : Nat → Nat) {α : List Sym} {u : List Nat}
    (h : DerivesSeq G α u) : DerivesSeq (G.rename f) (α.map (Sym.rename f)) u := by
  induction h with
  | nil => exact DerivesSeq.nil
  | term a rest ts _ ih => exact DerivesSeq.term a _ ts ih
  | nonterm r rest ts1 ts2 hr _ _ ih1 ih2 =>
    exact DerivesSeq.nonterm (r.rename f) _ ts1 ts2 (List.mem_map_of_mem hr) ih1 ih2

theorem Sym.rename_injective {f : Nat → Nat} (hf : ∀ a b, f a = f b → a = b) {x y : Sym} (h : x.rename f = y.rename f) : x = y := by
  cases x <;> cases y <;> simp only [Sym.rename, Sym.t.injEq, Sym.nt.injEq, reduceCtorEq] at h
  · rw [h]
  · rw [hf _ _ h]

/-- and back, when the mangling is injective on the names in use -/
theorem DerivesSeq.unrename {G : Grammar} (f : Nat → Nat) (hf : ∀ a b, f a = f b → a = b) :
    ∀ {β : List Sym} {u : List Nat}, DerivesSeq (G.rename f) β u →
      ∀ α, β = α.map (Sym.rename f) → DerivesSeq G α u := by
  intro β u h
  induction h with
  | nil => intro α hα; cases List.map_eq_nil_iff.mp hα.symm; exact DerivesSeq.nil
  | term a rest ts _ ih =>
    intro α hα
    obtain ⟨x, xs, rfl, hx, rfl⟩ := List.map_eq_cons_iff.mp hα.symm
    cases Sym.rename_injective hf (y := Sym.t a) hx
    exact DerivesSeq.term a xs ts (ih xs rfl)
  | nonterm r' rest ts1 ts2 hr' _ _ ih1 ih2 =>
    intro α hα
    obtain ⟨x, xs, rfl, hx, rfl⟩ := List.map_eq_cons_iff.mp hα.symm
    obtain ⟨r, hr, rfl⟩ := List.mem_map.mp hr'
    cases Sym.rename_injective hf (y := Sym.nt r.lhs) hx
    exact DerivesSeq.nonterm r xs ts1 ts2 hr (ih1 r.rhs rfl) (ih2 xs rfl)

/-- an injective renaming changes no language: every sentential form derives the same strings before and after -/
theorem DerivesSeq.rename_iff {G : Grammar} {f : Nat → Nat} (hf : ∀ a b, f a = f b → a = b) (α : List Sym) (u : List Nat) :
    DerivesSeq (G.rename f) (α.map (Sym.rename f)) u ↔ DerivesSeq G α u :=
  ⟨fun h => h.unrename f hf α rfl, DerivesSeq.rename f⟩

/-- C17: an imported grammar, mangled injectively, has exactly the language of the original -/
theorem rename_language (G : Grammar) (f : Nat → Nat) (hf : ∀ a b, f a = f b → a = b) (S : Nat) (u : List Nat) :
    DerivesSeq (G.rename f) [Sym.nt (f S)] u ↔ DerivesSeq G [Sym.nt S] u :=
  DerivesSeq.rename_iff hf [Sym.nt S] u

end EarleyProto
