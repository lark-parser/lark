import LarkVerif.LineCounter
import LarkVerif.Positions
/-! # C06 — token and tree positions are exact source coordinates -/
namespace Props.C06
open LCProto

/-- the stamp the basic/contextual lexer gives the token `text[s:e]` when its counter was positioned by
    `from_text_slice`/`advance_to` (model: `fromStart`) — what the driver evaluates for every real token -/
def stampAt (text : List Char) (s e : Nat) (flag : Bool) : Stamp :=
  (stampFeed (LineCounter.fromStart text s) ((text.drop s).take (e - s)) flag).1

/-- **Token positions, basic/contextual lexers.** For every text and every token span `[s, e)` inside it, if the token's
    type is newline-counted or the token holds no newline, the stamp is exactly
    `(s, line s, column s, e, line e, column e)`. -/
theorem token_stamp_exact (text : List Char) (s e : Nat) (flag : Bool) (h1 : s ≤ e) (h2 : e ≤ text.length)
    (hflag : flag = true ∨ NL ∉ (text.drop s).take (e - s)) :
    stampAt text s e flag = Stamp.spec text s e := by
  obtain ⟨hE, hcp⟩ := fromStart_exact text s (Nat.le_trans h1 h2)
  have := hE.stamp (flag := flag) (by rw [hcp]; exact (List.take_append_drop (e - s) _).symm) hflag
  rwa [hcp, List.length_take_of_le (List.length_drop ▸ Nat.sub_le_sub_right h2 _), Nat.add_sub_cancel' h1] at this

/-- the whole lexer loop over a tiling keeps exact coordinates (`stampAll_exact`, restated) -/
theorem lexer_loop_exact (toks : List (List Char × Bool)) (pre post : List Char) (lc : LineCounter)
    (hp : lc.charPos = pre.length) (hE : Exact (pre ++ flatToks toks ++ post) lc)
    (hfl : ∀ tf ∈ toks, tf.2 = true ∨ NL ∉ tf.1) :
    stampAll lc toks = specAll (pre ++ flatToks toks ++ post) pre.length toks :=
  hp ▸ stampAll_exact (post := post) toks lc hE (by rw [hp, List.append_assoc, List.drop_left]) hfl

/-- **Dynamic Earley lexers.** start = coordinates of `s`; end = one column past the last character on its line. -/
theorem dynamic_stamp_exact (text : List Char) (s e : Nat) (h1 : s < e) (h2 : e ≤ text.length) :
    dynStamp text s e = ⟨s, (coord text s).1, (coord text s).2, e, (coord text (e - 1)).1, (coord text (e - 1)).2 + 1⟩ :=
  dynStamp_exact text s e h1 h2

/-- windows and snapshots start from the coordinates of the full text -/
theorem window_start_exact (text : List Char) (start : Nat) (h : start ≤ text.length) :
    Exact text (LineCounter.fromStart text start) ∧ (LineCounter.fromStart text start).charPos = start :=
  fromStart_exact text start h

-- non-vacuity and the flag's necessity (the mechanism behind finding F1)
example : stampAt ['b', '\n', 'b'] 2 3 true = ⟨2, 2, 1, 3, 2, 2⟩ := by decide
example : (stampAll LineCounter.init [(['b'], false), (['\n'], false), (['b'], false)]).getLast? = some ⟨2, 1, 3, 3, 1, 4⟩ := by decide

/-- **Tree meta, `propagate_positions`.**  For every derivation (any grammar, any engine: they all run the same callback chain), outside the region
    of finding F19 (`cleanB`, evaluated by the driver on every real derivation): in the value every tree of the forest is shaped into, each tree
    whose rule matched at least one token carries exactly the span from the start of the first to the end of the last token that rule matched —
    filtered tokens included — and the span its parent sees for it is the span of the derivation that returned it (hence ordered, disjoint, nested). -/
theorem tree_meta_exact (d : ShapeProto.D) (h : PosProto.cleanB d = true) :
    (∀ x ∈ PosProto.evalP d, ∀ p ∈ PosProto.metas x.2, p.2 ≠ none → p.1 = p.2) ∧
    (PosProto.evalP d).map (fun x => PosProto.cand x.2) = PosProto.spans d :=
  ⟨fun x hx => PosProto.metas_exact x.2 ((PosProto.evalP_inv d h).2 x hx), (PosProto.evalP_inv d h).1⟩

section
open ShapeProto PosProto
private def sT : SymInfo := ⟨true, false, false⟩    -- a kept terminal
private def sF : SymInfo := ⟨true, true, false⟩     -- a filtered terminal
private def sR : SymInfo := ⟨false, false, false⟩   -- a rule
private def rr (e1 : Bool) : RuleInfo := ⟨0, Option.none, e1, false, [false, false]⟩
/-- non-vacuity: `start: r A`, `r: _U B` on "u b a" — `r` spans the filtered `u` too -/
example : cleanB (D.node sR (rr false) (D.node sR (rr false) (D.leaf sF 0 1 (D.leaf sT 2 3 D.nil)) (D.leaf sT 4 5 D.nil)) D.nil) = true := by decide
example : (evalP (D.node sR (rr false) (D.node sR (rr false) (D.leaf sF 0 1 (D.leaf sT 2 3 D.nil)) (D.leaf sT 4 5 D.nil)) D.nil)).map (fun x => metas x.2)
    = [[(some (0, 5), some (0, 5)), (some (0, 3), some (0, 3))]] := by decide
/-- and the hypothesis is needed — finding F19's witness: with `?r` the model (like lark) gives `start` the span 2..5 instead of 0..5 -/
example : cleanB (D.node sR (rr false) (D.node sR (rr true) (D.leaf sF 0 1 (D.leaf sT 2 3 D.nil)) (D.leaf sT 4 5 D.nil)) D.nil) = false := by decide
example : (evalP (D.node sR (rr false) (D.node sR (rr true) (D.leaf sF 0 1 (D.leaf sT 2 3 D.nil)) (D.leaf sT 4 5 D.nil)) D.nil)).map (fun x => metas x.2)
    = [[(some (2, 5), some (0, 5))]] := by decide
end

end Props.C06
