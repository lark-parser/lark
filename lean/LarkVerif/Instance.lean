/-! # A Lark instance across calls (`lark/lexer.py BasicLexer.scanner / search_scanner / callback`, `PatternRE._width`, `TreeMatcher._parser_cache`)

Everything a call on a constructed instance may leave behind is a *lazily initialised field*: `None` until first needed, then a value computed from
the instance's immutable configuration alone.  (Which fields those are is read from the source on every run: `Extracted.stateInventory`, see
`Props.C10.instance_state_is_the_modelled_state`.)  The model: an instance is its configuration plus one optional slot per lazy field; a call
forces the fields it needs, in some order, and computes its result from the configuration, its argument and the forced values; a call may also abort
(raise, or be an abandoned generator) after forcing only some of its fields. -/
namespace InstProto

structure Inst (Cfg Val : Type) where
  cfg : Cfg
  slots : List (Option Val)

variable {Cfg Val Arg Out : Type}

/-- the description of an instance's class: how each lazy field is computed, which fields a call needs (in order), and the call's result -/
structure Class (Cfg Val Arg Out : Type) where
  nslots : Nat
  init : Nat → Cfg → Val                      -- field i := init i cfg
  needs : Arg → List Nat                      -- fields read by the call, in order
  result : Cfg → Arg → List Val → Out

def fresh (C : Class Cfg Val Arg Out) (cfg : Cfg) : Inst Cfg Val := ⟨cfg, List.replicate C.nslots none⟩

/-- `if self._x is None: self._x = build(); return self._x` -/
def force (C : Class Cfg Val Arg Out) (I : Inst Cfg Val) (i : Nat) : Inst Cfg Val × Val :=
  match I.slots[i]? with
  | some (some v) => (I, v)
  | _ => (⟨I.cfg, I.slots.set i (some (C.init i I.cfg))⟩, C.init i I.cfg)

def forceAll (C : Class Cfg Val Arg Out) : Inst Cfg Val → List Nat → Inst Cfg Val × List Val
  | I, [] => (I, [])
  | I, i :: is =>
    let r := force C I i
    let rs := forceAll C r.1 is
    (rs.1, r.2 :: rs.2)

inductive Op (Arg : Type) where
  | call (a : Arg)                 -- a call that returns
  | abort (a : Arg) (k : Nat)      -- a call that raises / a generator abandoned after forcing its first k fields

def step (C : Class Cfg Val Arg Out) (I : Inst Cfg Val) : Op Arg → Inst Cfg Val × Option Out
  | .call a => let r := forceAll C I (C.needs a); (r.1, some (C.result I.cfg a r.2))
  | .abort a k => ((forceAll C I ((C.needs a).take k)).1, none)

/-- an instance of configuration `cfg` whose filled slots hold the values computed from `cfg` -/
def Inv (C : Class Cfg Val Arg Out) (cfg : Cfg) (I : Inst Cfg Val) : Prop :=
  I.cfg = cfg ∧ ∀ i v, I.slots[i]? = some (some v) → v = C.init i cfg

theorem fresh_inv (C : Class Cfg Val Arg Out) (cfg : Cfg) : Inv C cfg (fresh C cfg) := by
  refine ⟨rfl, fun i v h => ?_⟩
  simp only [fresh, List.getElem?_replicate] at h
  split at h <;> cases h

theorem force_spec {C : Class Cfg Val Arg Out} {cfg : Cfg} {I : Inst Cfg Val} (h : Inv C cfg I) (i : Nat) :
    Inv C cfg (force C I i).1 ∧ (force C I i).2 = C.init i cfg := by
  obtain ⟨rfl, h⟩ := h
  unfold force
  split
  · rename_i v hv; exact ⟨⟨rfl, h⟩, h i v hv⟩
  · refine ⟨⟨rfl, fun j v hj => ?_⟩, rfl⟩
    rw [List.getElem?_set] at hj
    split at hj
    · subst j; split at hj <;> cases hj; rfl
    · exact h j v hj

theorem forceAll_spec {C : Class Cfg Val Arg Out} {cfg : Cfg} {I : Inst Cfg Val} (h : Inv C cfg I) (is : List Nat) :
    Inv C cfg (forceAll C I is).1 ∧ (forceAll C I is).2 = is.map (fun i => C.init i cfg) := by
  induction is generalizing I with
  | nil => exact ⟨h, rfl⟩
  | cons i is ih =>
    obtain ⟨h1, h2⟩ := force_spec h i
    obtain ⟨g1, g2⟩ := ih h1
    exact ⟨g1, List.cons_eq_cons.mpr ⟨h2, g2⟩⟩

/-- what the call returns on a fresh instance of the same configuration -/
def pureOut (C : Class Cfg Val Arg Out) (cfg : Cfg) : Op Arg → Option Out
  | .call a => some (C.result cfg a ((C.needs a).map (fun i => C.init i cfg)))
  | .abort _ _ => none

theorem step_spec {C : Class Cfg Val Arg Out} {cfg : Cfg} {I : Inst Cfg Val} (h : Inv C cfg I) (op : Op Arg) :
    Inv C cfg (step C I op).1 ∧ (step C I op).2 = pureOut C cfg op := by
  cases op with
  | call a =>
    obtain ⟨h1, h2⟩ := forceAll_spec h (C.needs a)
    exact ⟨h1, by simp only [step, pureOut]; rw [h2, h.1]⟩
  | abort a k => exact ⟨(forceAll_spec h _).1, rfl⟩

def run (C : Class Cfg Val Arg Out) : Inst Cfg Val → List (Op Arg) → List (Option Out)
  | _, [] => []
  | I, op :: ops => let r := step C I op; r.2 :: run C r.1 ops

theorem run_spec {C : Class Cfg Val Arg Out} {cfg : Cfg} {I : Inst Cfg Val} (h : Inv C cfg I) (ops : List (Op Arg)) :
    run C I ops = ops.map (pureOut C cfg) := by
  induction ops generalizing I with
  | nil => rfl
  | cons op ops ih =>
    obtain ⟨h1, h2⟩ := step_spec h op
    exact List.cons_eq_cons.mpr ⟨h2, ih h1⟩

/-- **History independence.** Whatever completed, failed or abandoned calls came before, every call on the instance returns exactly what it returns on a
    fresh instance of the same configuration. -/
theorem history_independent (C : Class Cfg Val Arg Out) (cfg : Cfg) (ops : List (Op Arg)) :
    run C (fresh C cfg) ops = ops.map (pureOut C cfg) := run_spec (fresh_inv C cfg) ops

/-- in particular the same call twice, with anything in between, gives the same result -/
theorem same_call_same_result (C : Class Cfg Val Arg Out) (cfg : Cfg) (before between : List (Op Arg)) (a : Arg) :
    (run C (fresh C cfg) (before ++ [Op.call a] ++ between ++ [Op.call a])).getLast? =
    (run C (fresh C cfg) (before ++ [Op.call a])).getLast? := by
  simp only [history_independent, List.map_append, List.map_cons, List.map_nil, List.getLast?_concat]

/-- non-vacuity: a lexer-like class with a scanner slot and a search-scanner slot; `parse` needs the first, `scan` both -/
def exClass : Class Nat Nat Bool Nat :=
  { nslots := 2, init := fun i cfg => cfg + i, needs := fun a => if a then [0] else [1, 0], result := fun cfg _ vs => cfg + vs.sum }
example : run exClass (fresh exClass 5) [Op.call true, Op.abort false 1, Op.call false, Op.call true] = [some 10, none, some 16, some 10] := by decide

end InstProto
