import LarkVerif.LRComplete
namespace LRProto
open EarleyProto

/-- computed tables (grammar_analysis.py:78 `calculate_sets`), as the harness sends them or the model computes them -/
structure FN where
  nullable : Nat → Bool
  first : Nat → List Nat

def FN.nullableSeq (T : FN) : List Sym → Bool
  | [] => true
  | Sym.t _ :: _ => false
  | Sym.nt A :: rest => T.nullable A && T.nullableSeq rest

def FN.firstSeq (T : FN) : List Sym → List Nat
  | [] => []
  | Sym.t a :: _ => [a]
  | Sym.nt A :: rest => T.first A ++ (if T.nullable A then T.firstSeq rest else [])

/-- the decidable closure check on the tables: they are a pre-fixpoint of the defining equations -/
def FN.closedB (T : FN) (G : Grammar) : Bool :=
  G.rules.all fun r =>
    (!T.nullableSeq r.rhs || T.nullable r.lhs) && (T.firstSeq r.rhs).all (fun c => (T.first r.lhs).contains c)

theorem FN.closed_spec {T : FN} {G : Grammar} (h : T.closedB G = true) :
    ∀ r ∈ G.rules, (T.nullableSeq r.rhs = true → T.nullable r.lhs = true) ∧ (∀ c ∈ T.firstSeq r.rhs, c ∈ T.first r.lhs) := by
  simp only [FN.closedB, List.all_eq_true, Bool.and_eq_true, Bool.or_eq_true, Bool.not_eq_true',
    List.contains_iff_mem] at h
  exact fun r hr => ⟨fun hn => (h r hr).1.resolve_left (ne_false_of_eq_true hn), (h r hr).2⟩

/-- closed tables dominate the semantics: what a string derived from `γ` can start with / whether it can be empty -/
theorem FN.sem {T : FN} {G : Grammar} (h : T.closedB G = true) :
    ∀ {γ : List Sym} {u : List Nat}, DerivesSeq G γ u →
      (u = [] → T.nullableSeq γ = true) ∧ (∀ c rest, u = c :: rest → c ∈ T.firstSeq γ) := by
  intro γ u hd
  induction hd with
  | nil => exact ⟨(fun _ => rfl), (fun c rest h => by cases h)⟩
  | term a rest ts _ _ => exact ⟨(fun h => by cases h), (fun c rest' h => by cases h; exact List.mem_singleton.mpr rfl)⟩
  | nonterm r rest ts1 ts2 hr _ _ ih1 ih2 =>
    obtain ⟨hn, hf⟩ := FN.closed_spec h r hr
    constructor
    · intro hu
      obtain ⟨h1, h2⟩ := List.append_eq_nil_iff.mp hu
      exact Bool.and_eq_true_iff.mpr ⟨hn (ih1.1 h1), ih2.1 h2⟩
    · intro c rest' hu
      rcases List.append_eq_cons_iff.mp hu with ⟨h1, h2⟩ | ⟨xs, h1, _⟩
      · simp only [FN.firstSeq, hn (ih1.1 h1), if_true]
        exact List.mem_append_right _ (ih2.2 c rest' h2)
      · exact List.mem_append_left _ (hf _ (ih1.2 c xs h1))

/-- so the semantic lookahead condition of `TableClosed.closure` follows from a check on computed sets:
    `FIRST(β) ⊆ L'` and `(β nullable → L ⊆ L')` -/
theorem firstOf_of_tables {T : FN} {G : Grammar} (h : T.closedB G = true) (β : List Sym) (L L' : Nat → Prop)
    (hfirst : ∀ c ∈ T.firstSeq β, L' c) (hnull : T.nullableSeq β = true → ∀ c, L c → L' c) :
    ∀ c, FirstOf G β L c → L' c := by
  rintro c ⟨u, hd, hu | ⟨rfl, hL⟩⟩
  · obtain ⟨xs, rfl⟩ := List.head?_eq_some_iff.mp hu
    exact hfirst _ ((FN.sem h hd).2 c xs rfl)
  · exact hnull ((FN.sem h hd).1 rfl) c hL

end LRProto
