namespace ScanProto

/-- the two things `_scan` asks of the lexer and the parser (parser_frontends.py:173) -/
structure Oracles where
  n : Nat                        -- end of the text (slice)
  search : Nat → Option Nat      -- `lexer.search_start`: next position ≥ pos where a non-ignored terminal matches
  attempt : Nat → Option Nat     -- stunted parse from `s`: end of the longest token prefix after which `$END` is accepted
  search_ge : ∀ p q, search p = some q → p ≤ q ∧ q < n
  attempt_gt : ∀ s e, attempt s = some e → s < e ∧ e ≤ n
  /-- `SearchSound`: a position the search jumps over cannot start a match -/
  search_sound : ∀ p x, p ≤ x → (search p = none ∨ ∃ q, search p = some q ∧ x < q) → attempt x = none

/-- the loop of `_scan`; `fuel` bounds the remaining positions -/
def scan (O : Oracles) : Nat → Nat → List (Nat × Nat)
  | 0, _ => []
  | fuel+1, pos =>
    match O.search pos with
    | none => []
    | some s =>
      match O.attempt s with
      | some e => (s, e) :: scan O fuel e
      | none => scan O fuel (s + 1)

/-- ordered, non-empty, non-overlapping, not before `lo` -/
inductive Chain : Nat → List (Nat × Nat) → Prop
  | nil (lo) : Chain lo []
  | cons (lo s e rest) : lo ≤ s → s < e → Chain e rest → Chain lo ((s, e) :: rest)

theorem Chain.mono {lo lo' : Nat} {l : List (Nat × Nat)} (hle : lo' ≤ lo) (hc : Chain lo l) : Chain lo' l := by
  cases hc with
  | nil => exact Chain.nil _
  | cons _ s e rest h1 h2 h3 => exact Chain.cons lo' s e rest (Nat.le_trans hle h1) h2 h3

theorem scan_chain (O : Oracles) : ∀ fuel pos, Chain pos (scan O fuel pos) := by
  intro fuel pos
  fun_induction scan O fuel pos with
  | case1 pos => exact Chain.nil _
  | case2 fuel pos hs => exact Chain.nil _
  | case3 fuel pos s hs e ha ih => exact Chain.cons pos s e _ (O.search_ge pos s hs).1 (O.attempt_gt s e ha).1 ih
  | case4 fuel pos s hs ha ih => exact ih.mono (Nat.le_succ_of_le (O.search_ge pos s hs).1)

def covered (l : List (Nat × Nat)) (x : Nat) : Prop := ∃ r ∈ l, r.1 ≤ x ∧ x < r.2

/-- each reported match is the longest one the parser completes from its start -/
theorem scan_longest (O : Oracles) : ∀ fuel pos, ∀ r ∈ scan O fuel pos, O.attempt r.1 = some r.2 := by
  intro fuel pos
  fun_induction scan O fuel pos with
  | case1 pos => exact nofun
  | case2 fuel pos hs => exact nofun
  | case3 fuel pos s hs e ha ih => exact List.forall_mem_cons.mpr ⟨ha, ih⟩
  | case4 fuel pos s hs ha ih => exact ih

theorem fuel_advance {n pos q f : Nat} (hn : pos < n) (hq : pos < q) (hf : n - pos < f + 1) : n - q < f :=
  Nat.lt_of_lt_of_le (Nat.sub_lt_sub_left hn hq) (Nat.le_of_lt_succ hf)

/-- C14 "no miss": with enough fuel, a position at or after `pos` that is not inside a reported match
    does not start anything the parser accepts -/
theorem scan_no_miss (O : Oracles) : ∀ fuel pos, O.n - pos < fuel → ∀ x, pos ≤ x → x < O.n →
    ¬ covered (scan O fuel pos) x → O.attempt x = none := by
  intro fuel pos hf x hx hxn hnc
  fun_induction scan O fuel pos with
  | case1 pos => exact absurd hf (Nat.not_lt_zero _)
  | case2 fuel pos hs => exact O.search_sound pos x hx (Or.inl hs)
  | case3 fuel pos s hs e ha ih =>
    -- `x` is before the match (skipped by the search), inside it (covered), or after it (induction)
    have hge := O.search_ge pos s hs
    have hgt := O.attempt_gt s e ha
    rcases Nat.lt_or_ge x s with hxs | hxs
    · exact O.search_sound pos x hx (Or.inr ⟨s, hs, hxs⟩)
    · rcases Nat.lt_or_ge x e with hxe | hxe
      · exact absurd ⟨(s, e), List.mem_cons_self .., hxs, hxe⟩ hnc
      · exact ih (fuel_advance (Nat.lt_of_le_of_lt hge.1 hge.2) (Nat.lt_of_le_of_lt hge.1 hgt.1) hf) hxe
          fun ⟨r, hr, h⟩ => hnc ⟨r, List.mem_cons_of_mem _ hr, h⟩
  | case4 fuel pos s hs ha ih =>
    have hge := O.search_ge pos s hs
    rcases Nat.lt_trichotomy x s with hxs | rfl | hxs
    · exact O.search_sound pos x hx (Or.inr ⟨s, hs, hxs⟩)
    · exact ha
    · exact ih (fuel_advance (Nat.lt_of_le_of_lt hge.1 hge.2) (Nat.lt_succ_of_le hge.1) hf) hxs hnc

/-- the same loop without the proof fields (what the driver runs on tables taken from the real lexer and parser) -/
def scanRaw (search attempt : Nat → Option Nat) : Nat → Nat → List (Nat × Nat)
  | 0, _ => []
  | fuel+1, pos =>
    match search pos with
    | none => []
    | some s =>
      match attempt s with
      | some e => (s, e) :: scanRaw search attempt fuel e
      | none => scanRaw search attempt fuel (s + 1)

theorem scan_eq_raw (O : Oracles) : ∀ fuel pos, scan O fuel pos = scanRaw O.search O.attempt fuel pos := by
  intro fuel pos
  fun_induction scan O fuel pos with
  | case1 pos => rfl
  | case2 fuel pos hs => simp only [scanRaw, hs]
  | case3 fuel pos s hs e ha ih => simp only [scanRaw, hs, ha, ih]
  | case4 fuel pos s hs ha ih => simp only [scanRaw, hs, ha, ih]

end ScanProto
