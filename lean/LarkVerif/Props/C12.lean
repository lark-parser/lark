import LarkVerif.Cache
import LarkVerif.Extracted
/-! # C12 — the grammar cache is only an optimisation, whatever the state of the cache file -/
namespace Props.C12
open CacheProto

/-- **Refinement.** From any file state satisfying the invariant (absent, undecodable, or a complete file written by lark for *some* request), for every
    history of completed constructions, crashes during the write, external truncations, deletions and foreign files: every completed construction
    returns exactly what an uncached build of *its own* request returns. -/
theorem cache_is_only_an_optimisation (E : Env) (ops : List Op) (f : File) (h : Inv E f) :
    ∀ ro ∈ (run E f ops).2, ro.2 = E.build ro.1 := cache_refines_build E ops f h

/-- the invariant is preserved by every operation (so it holds in every reachable state, starting from an absent file) -/
theorem invariant_preserved (E : Env) (f : File) (op : Op) (h : Inv E f) : Inv E (step E f op).1 := (step_spec E f op h).1
theorem invariant_initially : ∀ E : Env, Inv E File.absent := fun _ => trivial

/-- a completed construction leaves a valid file for its own request behind -/
theorem open_leaves_valid_file (E : Env) (f : File) (r : Req) (h : Inv E f) :
    (openCached E f r).2 = File.good (E.key r.g) (E.hash r.imp) (E.build r) := by
  rw [openCached_eq E f r h]

/-- the cache key in the current source is an injective encoding (a `repr` of a tuple), not a concatenation (finding F4, fixed) -/
theorem key_shape_injective : Extracted.cacheKeyShape.head? = some "repr-tuple" := rfl

/-- … and it covers exactly what the property lists: the grammar text, where it was read from (relative imports are resolved against that path — finding F33,
    fixed), the (hashable) options, lark's version and the interpreter's major.minor -/
theorem key_covers_grammar_options_versions :
    Extracted.cacheKeyShape = ["repr-tuple", "grammar", "self.source_path", "options_items", "__version__", "sys.version_info[]"] := rfl

/-- every option is either part of the key or explicitly exempt (`unhashable`); what the exemption of `edit_terminals` and `postlex` costs is finding F37
    (a cached parser of another option set is served), recorded and replayed by the check -/
theorem unhashable_options_are_declared : Extracted.unhashableOptions.all (fun o => Extracted.optionDefaults.contains o) = true := by
  -- as `Props.C11.load_allowed_are_options`
  simp only [List.all_eq_true, List.contains_iff_mem, Extracted.unhashableOptions, Extracted.optionDefaults, List.mem_cons, List.not_mem_nil,
    forall_eq_or_imp, or_false, true_or, or_true, forall_eq, and_self]

end Props.C12
