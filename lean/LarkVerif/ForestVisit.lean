/-! # The forest walk (`lark/parsers/earley_forest.py:274 ForestVisitor.visit`)

The code walks the SPPF with an explicit stack of nodes and child iterators, a set `visiting` (= the ids on `path`) and, for
`single_visit=True`, a set `visited`.  A child that is on the path is *not* pushed: `on_cycle` is called instead.  The model below is the
same walk as a structurally recursive function over the list of children still to be handed out by the iterator on top of the stack
(the recursion stack of the model is the `input_stack` of the code).  The SPPF may be cyclic, so the recursion is *not* structural in the
graph: Lean accepts the definition only with the termination measure `(nodes not on the path, children left)`, which is the proof that the
walk terminates on every finite graph, cyclic or not.

The driver runs `visit` on the node graph exported from the real forest and the harness compares the event sequence with the one a logging
subclass of the real `ForestVisitor` produced (op `forest_visit`). -/
namespace VisitProto

structure Graph where
  nodes : List Nat           -- ids of symbol, intermediate and packed nodes
  kids : Nat → List Nat      -- what `visit_*_node_in` hands back, in iteration order (`None` children already dropped)
  isTok : Nat → Bool         -- TokenNode: `visit_token_node`, never entered

inductive Ev where
  | enter (n : Nat)          -- visit_{symbol,intermediate,packed}_node_in
  | leave (n : Nat)          -- visit_{symbol,intermediate,packed}_node_out
  | tok (n : Nat)            -- visit_token_node
  | cycle (n : Nat)          -- on_cycle(node, path)
deriving DecidableEq, Repr

/-- number of graph nodes that are not on the path -/
def remaining (g : Graph) (path : List Nat) : Nat := (g.nodes.filter (fun n => !path.contains n)).length

/-- the nodes off `c :: path` are the nodes off `path` without `c`, and `c` was one of them -/
theorem remaining_lt (g : Graph) (path : List Nat) (c : Nat) (hc : c ∈ g.nodes) (hp : ¬ c ∈ path) :
    remaining g (c :: path) < remaining g path := by
  have hsplit : g.nodes.filter (fun n => !(c :: path).contains n) = (g.nodes.filter (fun n => !path.contains n)).filter (· != c) := by
    rw [List.filter_filter]; congr; funext n; by_cases h : n = c <;> simp [h]
  unfold remaining
  rw [hsplit]
  refine Nat.lt_of_le_of_ne (List.length_filter_le ..) (fun he => ?_)
  have := List.length_filter_eq_length_iff.mp he c (List.mem_filter.mpr ⟨hc, by simpa using hp⟩)
  simp at this

/-- the walk below the iterator on top of the stack: `cs` are the children it has not yet handed out.
    Returns the events in order and the new `visited` set. -/
def visitKids (g : Graph) (sv : Bool) (path visited : List Nat) : List Nat → List Ev × List Nat
  | [] => ([], visited)
  | c :: cs =>
    if path.contains c then                      -- `id(next_node) in visiting`: report, do not push
      let r := visitKids g sv path visited cs
      (Ev.cycle c :: r.1, r.2)
    else if g.isTok c then                       -- TokenNode
      let r := visitKids g sv path visited cs
      (Ev.tok c :: r.1, r.2)
    else if sv && visited.contains c then        -- `self.single_visit and current_id in visited`: popped silently
      visitKids g sv path visited cs
    else if h : c ∈ g.nodes then
      let r1 := visitKids g sv (c :: path) visited (g.kids c)
      let r2 := visitKids g sv path (c :: r1.2) cs
      (Ev.enter c :: r1.1 ++ Ev.leave c :: r2.1, r2.2)
    else visitKids g sv path visited cs          -- not a node of the graph (the export never produces this)
termination_by cs => (remaining g path, cs.length)
decreasing_by
  all_goals simp_wf
  · right; omega
  · right; omega
  · right; omega
  · left; rename_i hp _ _; exact remaining_lt g path c h (by simpa using hp)
  · right; omega
  · right; omega

/-- `ForestVisitor.visit(root)` -/
def visit (g : Graph) (sv : Bool) (root : Nat) : List Ev := (visitKids g sv [] [] [root]).1

/-- replay an event sequence against a path: a node may be entered only while it is not on the path, left only when it is the innermost
    entered node, and `on_cycle` may only name a node that is on the path.  `none` = the discipline is broken. -/
def replay : List Nat → List Ev → Option (List Nat)
  | path, [] => some path
  | path, Ev.enter n :: es => if path.contains n then none else replay (n :: path) es
  | path, Ev.leave n :: es => match path with
      | p :: ps => if p = n then replay ps es else none
      | [] => none
  | path, Ev.tok _ :: es => replay path es
  | path, Ev.cycle n :: es => if path.contains n then replay path es else none

theorem replay_append (path : List Nat) (e1 e2 : List Ev) :
    replay path (e1 ++ e2) = (replay path e1).bind (replay · e2) := by
  fun_induction replay path e1 <;> simp_all [replay]

/-- C20, the walk is a proper depth-first walk on every graph: read in full at `Props.C20.walk_is_depth_first_and_reports_cycles` -/
theorem visitKids_replay (g : Graph) (sv : Bool) (path visited : List Nat) (cs : List Nat) :
    replay path (visitKids g sv path visited cs).1 = some path := by
  fun_induction visitKids g sv path visited cs with
  | case1 path visited => simp [replay]
  | case2 path visited c cs hp r ih => simp only [replay, hp, if_true]; exact ih
  | case3 path visited c cs hp ht r ih => simp only [replay]; exact ih
  | case4 path visited c cs hp ht hv ih => exact ih
  | case5 path visited c cs hp ht hv h r1 r2 ih1 ih2 =>
    have hp' : path.contains c = false := by simpa using hp
    show replay path (Ev.enter c :: (r1.1 ++ Ev.leave c :: r2.1)) = some path
    simp only [replay, hp']
    rw [replay_append, ih1]
    simp only [Option.bind_some, replay, if_true]
    exact ih2
  | case6 path visited c cs hp ht hv h ih => exact ih

theorem visit_is_depth_first (g : Graph) (sv : Bool) (root : Nat) : replay [] (visit g sv root) = some [] :=
  visitKids_replay g sv [] [] [root]

def entered : List Ev → List Nat
  | [] => []
  | Ev.enter n :: es => n :: entered es
  | _ :: es => entered es

theorem entered_append (a b : List Ev) : entered (a ++ b) = entered a ++ entered b := by
  induction a with
  | nil => rfl
  | cons e es ih => cases e <;> simp [entered, ih]

theorem entered_block (c : Nat) (a b : List Ev) : entered (Ev.enter c :: a ++ Ev.leave c :: b) = c :: (entered a ++ entered b) :=
  entered_append (Ev.enter c :: a) (Ev.leave c :: b)

/-- The last clause is the one that matters (ForestSumVisitor relies on it: every node's priority is computed once); the first two carry the induction. -/
theorem visitKids_visited (g : Graph) (sv : Bool) (path visited : List Nat) (cs : List Nat) :
    (∀ n, n ∈ (visitKids g sv path visited cs).2 ↔ n ∈ visited ∨ n ∈ entered (visitKids g sv path visited cs).1) ∧
    (∀ n ∈ entered (visitKids g sv path visited cs).1, n ∉ path ∧ (sv = true → n ∉ visited)) ∧
    (sv = true → (entered (visitKids g sv path visited cs).1).Nodup) := by
  fun_induction visitKids g sv path visited cs with
  | case1 path visited => simp [entered]
  | case2 path visited c cs hp r ih => exact ih
  | case3 path visited c cs hp ht r ih => exact ih
  | case4 path visited c cs hp ht hv ih => exact ih
  | case5 path visited c cs hp ht hv h r1 r2 ih1 ih2 =>
    obtain ⟨a1, b1, c1⟩ := ih1
    obtain ⟨a2, b2, c2⟩ := ih2
    rw [entered_block]
    -- the second walk starts from `c :: r1.2`, which by `a1` holds `c`, what was visited before and what the first walk entered
    refine ⟨fun n => ?_, fun n hn => ?_, fun hsv => ?_⟩
    · show n ∈ r2.2 ↔ _
      rw [a2 n, List.mem_cons, List.mem_cons, a1 n, List.mem_append, or_assoc, or_assoc, or_left_comm]
    · rcases List.mem_cons.mp hn with rfl | hn
      · exact ⟨by simpa using hp, fun hsv => by simpa [hsv] using hv⟩
      · rcases List.mem_append.mp hn with h | h
        · exact ⟨fun hnp => (b1 n h).1 (.tail _ hnp), (b1 n h).2⟩
        · exact ⟨(b2 n h).1, fun hsv hv' => (b2 n h).2 hsv (.tail _ ((a1 n).2 (.inl hv')))⟩
    · rw [List.nodup_cons, List.nodup_append]
      refine ⟨fun hc => ?_, c1 hsv, c2 hsv, fun x hx y hy hxy => (b2 y hy).2 hsv (.tail _ ((a1 y).2 (.inr (hxy ▸ hx))))⟩
      rcases List.mem_append.mp hc with h | h
      · exact (b1 c h).1 (.head _)
      · exact (b2 c h).2 hsv (.head _)
  | case6 path visited c cs hp ht hv h ih => exact ih

theorem single_visit_enters_once (g : Graph) (path visited : List Nat) (cs : List Nat) :
    (entered (visitKids g true path visited cs).1).Nodup := (visitKids_visited g true path visited cs).2.2 rfl

/-- non-vacuity: a two-node cycle `0 → 1 → 0` with a token below 1 -/
def exGraph : Graph := { nodes := [0, 1], kids := fun n => if n = 0 then [1] else if n = 1 then [2, 0] else [], isTok := fun n => n == 2 }
example : visit exGraph false 0 = [Ev.enter 0, Ev.enter 1, Ev.tok 2, Ev.cycle 0, Ev.leave 1, Ev.leave 0] := by
  simp [visit, visitKids, exGraph]

end VisitProto
