import LarkVerif.Shape
/-! C06, second half: `PropagatePositions` (parse_tree_builder.py:28) on top of the tree-shaping chain of `Shape.lean`.
    It is the outermost wrapper of every rule callback, so it sees the *unfiltered* children; the inner chain (`ChildFilter`, `ExpandSingleChild`)
    returns either a new tree or — for a collapsing `?rule` — one of the (possibly spliced) children.
    `evalP` is the executable model (the driver's `positions` op runs it against real `Tree.meta` on every case);
    `evalP_inv` proves that, outside the decidable region of finding F19 (`cleanB`), every non-empty tree's own meta is exactly the span of what the rule
    that built it matched (filtered tokens included), and its container span is the span of the derivation that returned it. -/
namespace PosProto
open ShapeProto (SymInfo RuleInfo D included toExpand runs)

abbrev Span := Option (Nat × Nat)

/-- what a rule callback returns, as far as positions are concerned.  `own` is a ghost field: the span of what the rule that *built* the tree
    matched (lark does not store it; the theorem is `mt = own`). -/
inductive PV where
  | tok (s e : Nat)
  | tree (own mt cont : Span) (kids : List PV)
  | none

def kidsOf : PV → List PV
  | .tree _ _ _ ks => ks
  | _ => []

/-- `ChildFilter.__call__` with the `None` plan, as in `ShapeProto.applyPlan` -/
def applyPlanP (keepAll : Bool) : List Nat → List (SymInfo × PV) → Nat → List PV
  | r :: rs, (s, c) :: cs, acc =>
      if included keepAll s then
        List.replicate (acc + r) PV.none ++ (if toExpand s then kidsOf c else [c]) ++ applyPlanP keepAll rs cs 0
      else applyPlanP keepAll rs cs (acc + r)
  | r :: _, [], acc => List.replicate (acc + r) PV.none
  | [], _, acc => List.replicate acc PV.none

/-- `ExpandSingleChild` / tree construction, as in `ShapeProto.finish`; a new tree starts with an empty meta -/
def finishP (expand1 : Bool) (alias : Option Nat) (own : Span) (kids : List PV) : PV :=
  match expand1, alias, kids with
  | true, Option.none, [k] => k
  | _, _, _ => PV.tree own Option.none Option.none kids

/-- combine the spans of consecutive pieces -/
def join : Span → Span → Span
  | Option.none, b => b
  | a, Option.none => a
  | some (s, _), some (_, e) => some (s, e)

/-- SPEC: the span of everything a forest matched; a leaf `D.leaf s start end rest` is a token occupying `[start, end)` -/
def span : D → Span
  | .nil => Option.none
  | .leaf _ s e rest => join (some (s, e)) (span rest)
  | .node _ _ kids rest => join (span kids) (span rest)

def spans : D → List Span
  | .nil => []
  | .leaf _ s e rest => some (s, e) :: spans rest
  | .node _ _ kids rest => span kids :: spans rest

/-- `_pp_get_meta` on one child: a token counts with its own span, a tree only if its meta is not `empty`, and then with its container span
    (`getattr(meta, 'container_…', meta.…)`) -/
def cand : PV → Span
  | .tok s e => some (s, e)
  | .tree _ mt cont _ => match mt with
    | Option.none => Option.none
    | some m => some (cont.getD m)
  | .none => Option.none

def firstStart : List PV → Option Nat
  | [] => Option.none
  | v :: vs => match cand v with
    | some (s, _) => some s
    | Option.none => firstStart vs

def lastEnd : List PV → Option Nat
  | [] => Option.none
  | v :: vs => match lastEnd vs with
    | some e => some e
    | Option.none => (cand v).map (·.2)

/-- `PropagatePositions.__call__` on the result `res` of the inner chain, given the unfiltered children values.
    (Start and end fields are written separately in the code; `first_meta` and `last_meta` range over the same candidates, so either both exist or neither.) -/
def propagate (res : PV) (vs : List PV) : PV :=
  match res with
  | .tree own mt _ ks =>
    match firstStart vs, lastEnd vs with
    | some s, some e => .tree own (match mt with | some m => some m | Option.none => some (s, e)) (some (s, e)) ks
    | _, _ => res
  | v => v

/-- the values of the trees of a forest, in order: what the parser's value stack holds -/
def evalP : D → List (SymInfo × PV)
  | .nil => []
  | .leaf s a b rest => (s, PV.tok a b) :: evalP rest
  | .node s r kids rest =>
      (s, propagate (finishP r.expand1 r.alias (span kids) (applyPlanP r.keepAll (runs r.markers) (evalP kids) 0)) ((evalP kids).map (·.2)))
        :: evalP rest

/-- the region of known finding F19, per node, on the result of the inner chain: a `?rule` collapses to a token (or to a `None` placeholder)
    narrower than what it matched.  (A returned *tree* needs no condition: its container span is overwritten with the node's span.) -/
def nodeOK (res : PV) (sp : Span) : Bool :=
  match res with
  | .tok s e => sp == some (s, e)
  | .none => sp == Option.none
  | .tree _ _ _ _ => true

def cleanB : D → Bool
  | .nil => true
  | .leaf _ _ _ rest => cleanB rest
  | .node _ r kids rest =>
      cleanB kids && cleanB rest &&
      nodeOK (finishP r.expand1 r.alias (span kids) (applyPlanP r.keepAll (runs r.markers) (evalP kids) 0)) (span kids)

/-- exactness, deep: the meta of a tree whose rule matched at least one token is the span of what that rule matched (`own`); positions are set
    together; a tree that matched nothing holds nothing with a position; and the same for every child.
    (A tree that matched nothing may be handed its inlining `?rule`'s span — the property speaks of non-empty nodes.) -/
inductive Exact : PV → Prop
  | tok (s e) : Exact (.tok s e)
  | none : Exact .none
  | tree (own mt cont ks) : (own ≠ Option.none → mt = own) → (mt = Option.none → cont = Option.none) → (own = Option.none → ∀ k ∈ ks, cand k = Option.none) →
      (∀ k ∈ ks, Exact k) → Exact (.tree own mt cont ks)

theorem join_none_right (a : Span) : join a Option.none = a := by cases a <;> rfl

theorem span_eq_fold : ∀ d : D, span d = (spans d).foldr join Option.none := by
  intro d
  induction d with
  | nil => rfl
  | leaf _ s e rest ih => simp [span, spans, ih]
  | node _ _ kids rest _ ih => simp [span, spans, ih]

/-- a joined span is empty only if every piece is -/
theorem all_none_of_fold : ∀ l : List Span, l.foldr join Option.none = Option.none → ∀ sp ∈ l, sp = Option.none := by
  intro l
  induction l with
  | nil => intro _ sp h; cases h
  | cons a l ih =>
    intro h sp hsp
    simp only [List.foldr_cons] at h
    cases a with
    | none =>
      rcases List.mem_cons.mp hsp with rfl | hm
      · rfl
      · exact ih (by simpa [join] using h) sp hm
    | some p => cases hfo : l.foldr join Option.none <;> simp [join, hfo] at h

/-- start of the first and end of the last positioned child are the ends of the joined span -/
theorem firstStart_lastEnd (vs : List PV) :
    firstStart vs = ((vs.map cand).foldr join Option.none).map (·.1) ∧ lastEnd vs = ((vs.map cand).foldr join Option.none).map (·.2) := by
  induction vs with
  | nil => exact ⟨rfl, rfl⟩
  | cons v vs ih =>
    simp only [firstStart, lastEnd, List.map_cons, List.foldr_cons, ih.1, ih.2]
    rcases cand v with _ | ⟨s, e⟩
    · cases (vs.map cand).foldr join Option.none <;> simp [join]
    · rcases (vs.map cand).foldr join Option.none with _ | ⟨s', e'⟩ <;> simp [join]

/-- what `ChildFilter` hands on is made of `None`s, children, and children of (inlined) children: what holds of all these holds of all it hands on -/
theorem forall_mem_applyPlanP {P : PV → Prop} (keepAll : Bool) (hn : P PV.none) : ∀ (rs : List Nat) (cs : List (SymInfo × PV)) (acc : Nat),
    (∀ sc ∈ cs, P sc.2 ∧ ∀ k ∈ kidsOf sc.2, P k) → ∀ x ∈ applyPlanP keepAll rs cs acc, P x := by
  intro rs cs acc
  induction rs, cs, acc using applyPlanP.induct keepAll with
  | case1 r rs s c cs acc hi ih =>
    intro h x hx
    obtain ⟨⟨hc, hk⟩, hcs⟩ := List.forall_mem_cons.mp h
    simp only [applyPlanP, hi, if_true, List.mem_append] at hx
    rcases hx with (hx | hx) | hx
    · exact List.eq_of_mem_replicate hx ▸ hn
    · split at hx
      · exact hk x hx
      · exact List.mem_singleton.mp hx ▸ hc
    · exact ih hcs x hx
  | case2 r rs s c cs acc hi ih =>
    intro h x hx
    simp only [applyPlanP, hi] at hx
    exact ih (List.forall_mem_cons.mp h).2 x hx
  | case3 r _ acc => intro _ x hx; exact List.eq_of_mem_replicate hx ▸ hn
  | case4 cs acc => intro _ x hx; simp only [applyPlanP] at hx; exact List.eq_of_mem_replicate hx ▸ hn

/-- one level down in an `Exact` value everything is `Exact`, and without a position if the value has none -/
theorem Exact.kidsOf {v : PV} (h : Exact v) : ∀ k ∈ kidsOf v, Exact k ∧ (cand v = Option.none → cand k = Option.none) := by
  cases h with
  | tok | none => nofun
  | tree own mt cont ks hmo _ hblank hk =>
    intro k hkm
    refine ⟨hk k hkm, fun hc => hblank ?_ k hkm⟩
    -- a tree without a position has an empty meta, so its rule matched nothing
    cases mt with
    | some m => cases hc
    | none =>
      cases own with
      | none => rfl
      | some o => exact nomatch hmo nofun

/-- `PropagatePositions` writes nothing when no child has a position … -/
theorem propagate_none {res : PV} {vs : List PV} (hf : firstStart vs = Option.none) : propagate res vs = res := by
  cases res <;> simp only [propagate, hf]

/-- … and otherwise gives a tree the container span from the first child's start to the last child's end, and that span as meta unless it has one -/
theorem propagate_tree {own mt cont : Span} {ks vs : List PV} {s e : Nat} (hf : firstStart vs = some s) (hl : lastEnd vs = some e) :
    propagate (.tree own mt cont ks) vs = .tree own (some (mt.getD (s, e))) (some (s, e)) ks := by
  cases mt <;> simp only [propagate, hf, hl, Option.getD]

/-- What a node returns, in variables: `ks` is what the inner chain hands on, `vs` are the unfiltered children values, `sp` is the node's span.
    If the ends of `vs` are the ends of `sp`, everything in `ks` is exact (and positionless when `sp` is empty), and the node is outside F19,
    the returned value occupies `sp` and is exact. -/
theorem propagate_finishP_exact (e1 : Bool) (alias : Option Nat) (sp : Span) (ks vs : List PV)
    (hf : firstStart vs = sp.map (·.1)) (hl : lastEnd vs = sp.map (·.2))
    (hmem : ∀ x ∈ ks, Exact x ∧ (sp = Option.none → cand x = Option.none))
    (hok : nodeOK (finishP e1 alias sp ks) sp = true) :
    cand (propagate (finishP e1 alias sp ks) vs) = sp ∧ Exact (propagate (finishP e1 alias sp ks) vs) := by
  -- the result of the inner chain is a fresh tree over `ks`, or (a collapsing `?rule`) the single member of `ks`
  have hres : finishP e1 alias sp ks = PV.tree sp Option.none Option.none ks ∨
      ∃ k, ks = [k] ∧ finishP e1 alias sp ks = k := by
    unfold finishP
    split
    · exact Or.inr ⟨_, rfl, rfl⟩
    · exact Or.inl rfl
  have hkids : ∀ k ∈ ks, Exact k := fun k hk => (hmem k hk).1
  cases sp with
  | none =>
    -- the node matched nothing: the result is left as it is, and nothing in it has a position
    rw [propagate_none hf]
    rcases hres with hres | ⟨k, rfl, hres⟩
    · rw [hres]
      exact ⟨rfl, Exact.tree _ _ _ _ (fun h => absurd rfl h) (fun _ => rfl) (fun _ k hk => (hmem k hk).2 rfl) hkids⟩
    · rw [hres]
      exact ⟨(hmem k (List.mem_singleton.mpr rfl)).2 rfl, hkids k (List.mem_singleton.mpr rfl)⟩
  | some p =>
    obtain ⟨s, e⟩ := p
    rcases hres with hres | ⟨k, rfl, hres⟩
    · rw [hres, propagate_tree hf hl]
      exact ⟨rfl, Exact.tree _ _ _ _ (fun _ => rfl) nofun nofun hkids⟩
    · rw [hres] at hok ⊢
      cases hkids k (List.mem_singleton.mpr rfl) with
      | tok s' e' => exact ⟨(beq_iff_eq.mp hok).symm, Exact.tok s' e'⟩
      | none => exact ⟨(beq_iff_eq.mp hok).symm, Exact.none⟩
      | tree own mt cont ks' hmo hmc hblank hkids' =>
        -- a returned tree keeps its meta (which is `own`), or, if it matched nothing, is handed this node's span
        rw [propagate_tree hf hl]
        refine ⟨rfl, Exact.tree _ _ _ _ (fun h => ?_) nofun hblank hkids'⟩
        cases mt with
        | some m => exact hmo h
        | none => exact absurd (hmo h).symm h

/-- **Main invariant.** Outside the region of F19, for every value on the stack: the span it occupies as seen by its parent (token span /
    tree container) is the span of the derivation that returned it, and every tree in it (deep) has `meta = ` the span of what its rule matched. -/
theorem evalP_inv : ∀ d : D, cleanB d = true →
    ((evalP d).map (fun x => cand x.2) = spans d) ∧ (∀ x ∈ evalP d, Exact x.2) := by
  intro d
  induction d with
  | nil => intro _; exact ⟨rfl, fun x hx => nomatch hx⟩
  | leaf s a b rest ih =>
    intro h
    obtain ⟨h1, h2⟩ := ih (by simpa [cleanB] using h)
    simp only [evalP, spans, List.map_cons, List.forall_mem_cons, h1]
    exact ⟨rfl, Exact.tok a b, h2⟩
  | node s r kids rest ihk ihr =>
    intro h
    simp only [cleanB, Bool.and_eq_true] at h
    obtain ⟨⟨hk, hr⟩, hok⟩ := h
    obtain ⟨hr1, hr2⟩ := ihr hr
    obtain ⟨hk1, hk2⟩ := ihk hk
    have hvs : ((evalP kids).map (·.2)).map cand = spans kids := by rw [List.map_map]; exact hk1
    obtain ⟨hf, hl⟩ := firstStart_lastEnd ((evalP kids).map (·.2))
    rw [hvs, ← span_eq_fold] at hf hl
    -- no child has a position if the node matched nothing
    have hcn : ∀ sc ∈ evalP kids, span kids = Option.none → cand sc.2 = Option.none := fun sc hsc hsp =>
      all_none_of_fold (spans kids) (by rw [← span_eq_fold]; exact hsp) _ (by rw [← hk1]; exact List.mem_map.mpr ⟨sc, hsc, rfl⟩)
    -- so everything the inner chain can hand on is exact, and positionless if the node matched nothing
    have hmem := forall_mem_applyPlanP (P := fun x => Exact x ∧ (span kids = Option.none → cand x = Option.none)) r.keepAll
      ⟨Exact.none, fun _ => rfl⟩ (runs r.markers) (evalP kids) 0 fun sc hsc =>
        ⟨⟨hk2 sc hsc, hcn sc hsc⟩, fun k hk => ((hk2 sc hsc).kidsOf k hk).imp_right (· ∘ hcn sc hsc)⟩
    -- the value this node returns
    have key := propagate_finishP_exact r.expand1 r.alias (span kids) _ ((evalP kids).map (·.2)) hf hl hmem hok
    simp only [evalP, spans, List.map_cons, List.forall_mem_cons, hr1, key.1, true_and]
    exact ⟨key.2, hr2⟩

/-- the preorder list of (own meta, span of what the building rule matched) over all trees of a value — what the driver prints -/
def metas : PV → List (Span × Span)
  | .tok _ _ => []
  | .none => []
  | .tree own mt _ ks => (mt, own) :: metasL ks
where metasL : List PV → List (Span × Span)
  | [] => []
  | k :: ks => metas k ++ metasL ks

theorem mem_metasL {p : Span × Span} {l : List PV} : p ∈ metas.metasL l ↔ ∃ k ∈ l, p ∈ metas k := by
  induction l with
  | nil => simp [metas.metasL]
  | cons k ks ih => simp [metas.metasL, ih]

/-- **Tree meta is exact**: in an `Exact` value the meta of every tree whose rule matched something is the span of what that rule matched -/
theorem metas_exact : ∀ v : PV, Exact v → ∀ p ∈ metas v, p.2 ≠ Option.none → p.1 = p.2 := by
  intro v h
  induction h with
  | tok s e => intro p hp; cases hp
  | none => intro p hp; cases hp
  | tree own mt cont ks hmo _ _ _ ih =>
    intro p hp
    simp only [metas, List.mem_cons] at hp
    rcases hp with rfl | hp
    · exact hmo
    · obtain ⟨k, hk, hp⟩ := mem_metasL.mp hp
      exact ih k hk p hp

end PosProto
