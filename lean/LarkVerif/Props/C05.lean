import LarkVerif.Priority
import LarkVerif.Choice
import LarkVerif.Extracted
/-! # C05 — default ambiguity resolution is priority-optimal -/
namespace Props.C05
open PrioProto

/-- **Main theorem.** The value the bottom-up forest walk (`ForestSumVisitor`: packed node = rule priority + children, symbol node = max over its
    packed alternatives) assigns to a node is the maximum total priority over *all* derivations the forest encodes below it (`none` iff there are none). -/
theorem forest_walk_is_max_over_derivations (t : AO) : prio t = best (derivs t) := prio_eq_best t

/-- optimality in the usual form: no derivation has a larger total priority than the value of the root -/
theorem no_derivation_beats_the_root (t : AO) (x : Int) (hx : x ∈ derivs t) : ∃ m, prio t = some m ∧ x ≤ m := resolve_optimal t x hx

/-- `priority='invert'` negates every weight at load time: the same walk then yields the minimum -/
def negate : AO → AO
  | .leaf w => .leaf (-w)
  | .orNil => .orNil
  | .orCons a r => .orCons (negate a) (negate r)
  | .and0 w => .and0 (-w)
  | .and1 w c => .and1 (-w) (negate c)
  | .and2 w l r => .and2 (-w) (negate l) (negate r)

theorem derivs_negate (t : AO) : derivs (negate t) = (derivs t).map (fun x => -x) := by
  induction t with
  | leaf w => rfl
  | orNil => rfl
  | orCons a r iha ihr => simp only [negate, derivs, iha, ihr, List.map_append]
  | and0 w => rfl
  | and1 w c ih =>
    simp only [negate, derivs, ih, List.map_map]
    exact List.map_congr_left fun x _ => (Int.neg_add ..).symm
  | and2 w l r ihl ihr =>
    -- both sides are the same double comprehension; the summands agree pointwise
    simp only [negate, derivs, ihl, ihr, List.flatMap_map, List.map_flatMap, List.map_map]
    congr 1; funext a; congr 1; funext y
    simp only [Function.comp_apply]; omega

/-- under `invert` no derivation has a *smaller* total (original) priority than minus the root value -/
theorem invert_is_min (t : AO) (x : Int) (hx : x ∈ derivs t) : ∃ m, prio (negate t) = some m ∧ -m ≤ x := by
  have hx' : -x ∈ derivs (negate t) := by rw [derivs_negate]; exact List.mem_map.mpr ⟨x, hx, rfl⟩
  obtain ⟨m, hm, hle⟩ := resolve_optimal (negate t) (-x) hx'
  exact ⟨m, hm, by omega⟩

/-- the tie-break order among equally good alternatives, as it is in the current source: non-empty first, priority, rule order -/
theorem packed_sort_key_is_documented : Extracted.packedSortKey = [("+", "self.is_empty"), ("-", "self.priority"), ("+", "self.rule.order")] := rfl

/-- **The choice function** (`sorted(children, key=sort_key)[0]` with the key above).  Built-in precedence: a directly empty alternative is chosen only
    where every alternative of the node is empty … -/
theorem empty_alternative_only_if_nothing_else (l : List ChoiceProto.Fam) (c : ChoiceProto.Fam) (h : ChoiceProto.choose l = some c)
    (hc : c.isEmpty = true) : ∀ f ∈ l, f.isEmpty = true := ChoiceProto.empty_chosen_only_if_all_empty l c h hc

/-- … otherwise the chosen alternative has the highest priority among the non-empty ones … -/
theorem chosen_alternative_has_max_priority (l : List ChoiceProto.Fam) (c : ChoiceProto.Fam) (h : ChoiceProto.choose l = some c) :
    ∀ f ∈ l, f.isEmpty = false → f.prio ≤ c.prio := ChoiceProto.chosen_has_max_priority l c h

/-- … and among equally good ones it is the alternative written first: the choice is a function of grammar and input, not of hash order
    (families of the *same* rule with different split points share a key: there the order is the forest's iteration order, compared per hash seed). -/
theorem ties_go_to_the_first_alternative (l : List ChoiceProto.Fam) (c : ChoiceProto.Fam) (h : ChoiceProto.choose l = some c) :
    ∀ f ∈ l, f.isEmpty = c.isEmpty → f.prio = c.prio → c.order ≤ f.order := ChoiceProto.chosen_is_first_written l c h

example : prio (.orCons (.and1 2 (.leaf 0)) (.orCons (.and2 0 (.leaf 1) (.leaf 3)) .orNil)) = some 4 := by decide

end Props.C05
