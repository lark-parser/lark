import LarkVerif.EarleyExec
import LarkVerif.EarleyExpected
import LarkVerif.LR0Viable
import LarkVerif.LRViable
import LarkVerif.LRComplete
/-! # C08 — rejections happen at the first offending position -/
namespace Props.C08

/-- **Earley.** While the consumed lattice prefix `u1` can still be extended (by `u2`) to something derivable from the rest of an item,
    the chart column it ends in is not empty: the parser raises only at the first position after which no continuation exists. -/
theorem earley_viable_prefix_alive {G : EarleyProto.Grammar} {L : EarleyProto.Lattice} {start : Nat}
    {β : List EarleyProto.Sym} {u : List Nat} (h : EarleyProto.DerivesSeq G β u)
    {i j : Nat} {r : EarleyProto.Rule} {d k : Nat} (γ : List EarleyProto.Sym) (u1 u2 : List Nat)
    (hc : EarleyProto.Chart G L start i ⟨r, d, k⟩) (hd : r.rhs.drop d = β ++ γ) (hu : u = u1 ++ u2) (hs : EarleyProto.Steps L i j u1) :
    ∃ it, EarleyProto.Chart G L start j it :=
  EarleyProto.Chart.viable h γ u1 u2 hc hd hu hs

/-- every item in a column (hence every terminal reported as expected there) is backed by a real derivation of the consumed text -/
theorem earley_expected_backed {G : EarleyProto.Grammar} {L : EarleyProto.Lattice} {start i : Nat} {it : EarleyProto.Item}
    (h : EarleyProto.Chart G L start i it) :
    ∃ ts, EarleyProto.Path L it.origin i ts ∧ EarleyProto.DerivesSeq G (it.rule.rhs.take it.dot) ts := h.sound

/-- **LALR.** For any table passing the completeness certificate, a token sequence that can be extended to a sentence is consumed without
    error: `UnexpectedToken` is raised at the first token after which no sentence is possible. -/
theorem lalr_viable_prefix_shifts {G : EarleyProto.Grammar} {T : LRProto.Table} {s0 eof : Nat} {la} (hC : LRProto.TableClosed G T s0 eof la)
    (pre post : List Nat) (h : EarleyProto.DerivesSeq G [EarleyProto.Sym.nt s0] (pre ++ post)) :
    ∃ F0, ∀ F, F0 < F → ∃ cfg', LRProto.feedAll T F ⟨[T.start], []⟩ pre = LRProto.Outcome.shifted cfg' :=
  LRProto.viable_prefix_shifts hC pre post h

/-- **Continuation sets, nothing missing** (every grammar): a terminal that can legally come next at position `i` — some reading of the text
    up to `i` followed by it begins a sentence — is among the terminals after the dot of the chart items of column `i`, i.e. in the reported
    `expected`/`allowed` set. -/
theorem earley_expected_complete {G : EarleyProto.Grammar} {L : EarleyProto.Lattice} {start i a : Nat}
    (h : EarleyProto.LegalNext G L start i a) : EarleyProto.Expected G L start i a :=
  EarleyProto.legal_is_expected h

/-- **Continuation sets, exact** (dynamic Earley lexers; grammars whose rules are all productive, certified by the decidable `productiveB`):
    the executable continuation set of a column — the list the driver prints and the harness compares with lark's exception — contains a
    terminal iff it can legally come next. -/
theorem earley_expected_exact (G : EarleyProto.Grammar) (L : EarleyProto.FLattice) (hL : L.WF) (start i a : Nat) (order : List EarleyProto.Rule)
    (hP : EarleyProto.productiveB G order = true) :
    a ∈ EarleyProto.expectedAt G L start i ↔ EarleyProto.LegalNext G L.toLattice start i a :=
  EarleyProto.expectedAt_exact G L hL start i a order hP

/-- productivity cannot be dropped: `start: "b" x`, `x: "c" x` after `b` expects `c` although no sentence exists (true of lark as well) -/
theorem earley_expected_needs_productive :
    EarleyProto.Expected EarleyProto.badG EarleyProto.badL 0 1 2 ∧ ¬ EarleyProto.LegalNext EarleyProto.badG EarleyProto.badL 0 1 2 :=
  EarleyProto.unproductive_counterexample

/-- **LALR, "every terminal in accepts can legally come next".** For an LR(0) automaton passing `LR0.checkLR0` (lark's exported item sets, kernels and
    transitions, per grammar) over a productive grammar: if the state reached from the start state along the stack symbols `γ` has an item with its
    dot in front of terminal `a` — the only way a shift on `a` enters the table — then for every token string `u` that reduces to `γ` some sentence
    begins with `u ++ [a]`. -/
theorem lalr_shifted_terminal_is_legal {G : EarleyProto.Grammar} {A : LR0.Auto} {start q0 : Nat} (h : LR0.checkLR0 G A = true)
    (order : List EarleyProto.Rule) (hP : EarleyProto.productiveB G order = true) (h0 : q0 < A.items.length)
    (hstart : ∀ x ∈ A.kernelOf q0, x.2 = 0 ∧ x.1.lhs = start ∧ x.1 ∈ G.rules)
    {γ : List EarleyProto.Sym} {q : Nat} (hr : LR0.Reach A q0 γ q) {r : EarleyProto.Rule} {d a : Nat} (hin : (r, d) ∈ A.itemsOf q)
    (hs : r.rhs[d]? = some (EarleyProto.Sym.t a)) {u : List Nat} (hu : EarleyProto.DerivesSeq G γ u) :
    ∃ w, EarleyProto.DerivesSeq G [EarleyProto.Sym.nt start] (u ++ a :: w) :=
  LR0.shift_symbol_viable h (EarleyProto.productiveB_sound hP) h0 hstart hr hin hs hu

/-- **LALR driver: a token it accepts can legally come next** (what `accepts()` finds by trial feeding).  For a table passing `TableSafe` whose
    shift/goto entries are the transitions of an automaton passing `checkLR0`, over a grammar with a passing productivity certificate: if
    `feed_token` on `t` succeeds from a configuration reached by consuming `consumed`, some sentence begins with `consumed ++ [t]` — whatever the
    lookahead sets are. -/
theorem lalr_accepted_terminal_is_legal {G : EarleyProto.Grammar} {T : LRProto.Table} {A : LR0.Auto} {s0 start : Nat}
    (hT : LRProto.TableSafe G T s0) (h : LR0.checkLR0 G A = true) (order : List EarleyProto.Rule) (hP : EarleyProto.productiveB G order = true)
    (h0 : T.start < A.items.length) (hstart : ∀ x ∈ A.kernelOf T.start, x.2 = 0 ∧ x.1.lhs = start ∧ x.1 ∈ G.rules)
    (hne : ∀ q, q < A.items.length → A.kernelOf q ≠ []) (hTA : LRProto.TableOf T A)
    {cfg cfg' : LRProto.Config} {consumed : List Nat} (hinv : LRProto.Inv G T cfg consumed) {t fuel : Nat}
    (hfeed : LRProto.reduceLoop T t false fuel cfg = LRProto.Outcome.shifted cfg') :
    ∃ w, EarleyProto.DerivesSeq G [EarleyProto.Sym.nt start] (consumed ++ t :: w) :=
  LRProto.fed_token_is_legal hT ⟨h, EarleyProto.productiveB_sound hP, h0, hstart, hne, hTA⟩ hinv hfeed

/-- **LALR: every terminal in `accepts` can legally come next** — for the model of `InteractiveParser.accepts()` itself (trial feeding of the
    terminals in `choices()`): a terminal other than `$END` begins a continuation of the consumed input to a sentence, and `$END` is returned only
    if the consumed input is a sentence. -/
theorem lalr_accepts_are_legal {G : EarleyProto.Grammar} {T : LRProto.Table} {A : LR0.Auto} {s0 start : Nat}
    (hT : LRProto.TableSafe G T s0) (h : LR0.checkLR0 G A = true) (order : List EarleyProto.Rule) (hP : EarleyProto.productiveB G order = true)
    (h0 : T.start < A.items.length) (hstart : ∀ x ∈ A.kernelOf T.start, x.2 = 0 ∧ x.1.lhs = start ∧ x.1 ∈ G.rules)
    (hne : ∀ q, q < A.items.length → A.kernelOf q ≠ []) (hTA : LRProto.TableOf T A)
    {cfg : LRProto.Config} {consumed : List Nat} (hinv : LRProto.Inv G T cfg consumed) (terms : List Nat) (eof fuel t : Nat)
    (ht : t ∈ LRProto.acceptsOf T terms eof fuel cfg) :
    (t ≠ eof → ∃ w, EarleyProto.DerivesSeq G [EarleyProto.Sym.nt start] (consumed ++ t :: w)) ∧
    (t = eof → EarleyProto.DerivesSeq G [EarleyProto.Sym.nt s0] consumed) :=
  LRProto.accepts_are_legal hT ⟨h, EarleyProto.productiveB_sound hP, h0, hstart, hne, hTA⟩ hinv ht

/-- **LALR driver: correct-prefix property.** Whatever the driver has consumed without raising is a prefix of a sentence — so `UnexpectedToken`
    is raised no later than at the first token after which no sentence is possible (with `lalr_viable_prefix_shifts`: exactly there). -/
theorem lalr_consumed_is_viable_prefix {G : EarleyProto.Grammar} {T : LRProto.Table} {A : LR0.Auto} {start : Nat}
    (h : LR0.checkLR0 G A = true) (order : List EarleyProto.Rule) (hP : EarleyProto.productiveB G order = true)
    (h0 : T.start < A.items.length) (hstart : ∀ x ∈ A.kernelOf T.start, x.2 = 0 ∧ x.1.lhs = start ∧ x.1 ∈ G.rules)
    (hne : ∀ q, q < A.items.length → A.kernelOf q ≠ []) (hTA : LRProto.TableOf T A)
    {cfg : LRProto.Config} {consumed : List Nat} (hinv : LRProto.Inv G T cfg consumed) :
    ∃ w, EarleyProto.DerivesSeq G [EarleyProto.Sym.nt start] (consumed ++ w) :=
  LRProto.consumed_is_viable_prefix ⟨h, EarleyProto.productiveB_sound hP, h0, hstart, hne, hTA⟩ hinv

/-- **LALR: the error position is the first offending token, in both directions.** (→, `lalr_viable_prefix_shifts`: a prefix of a sentence is consumed
    without error, for a table with the completeness certificate.) (←, here:) a token prefix the driver consumes without raising begins a sentence
    of the root symbol — so it never reads past the first token after which no sentence is possible. -/
theorem lalr_consumed_prefix_begins_sentence {G : EarleyProto.Grammar} {T : LRProto.Table} {A : LR0.Auto} {s0 start : Nat}
    (hT : LRProto.TableSafe G T s0) (h : LR0.checkLR0 G A = true) (order : List EarleyProto.Rule) (hP : EarleyProto.productiveB G order = true)
    (h0 : T.start < A.items.length) (hstart : ∀ x ∈ A.kernelOf T.start, x.2 = 0 ∧ x.1.lhs = start ∧ x.1 ∈ G.rules)
    (hne : ∀ q, q < A.items.length → A.kernelOf q ≠ []) (hTA : LRProto.TableOf T A) (F : Nat) (pre : List Nat) (cfg' : LRProto.Config)
    (hfeed : LRProto.feedAll T F ⟨[T.start], []⟩ pre = LRProto.Outcome.shifted cfg') :
    ∃ w, EarleyProto.DerivesSeq G [EarleyProto.Sym.nt start] (pre ++ w) :=
  LRProto.consumed_prefix_begins_sentence hT ⟨h, EarleyProto.productiveB_sound hP, h0, hstart, hne, hTA⟩ hfeed

end Props.C08
