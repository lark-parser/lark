/-! C16: `Tree.iter_subtrees` (lark/tree.py:137) — the walk `Transformer_InPlace.transform` and `Visitor.visit` are driven by.
    The code runs a queue over the tree (each node's `Tree` children are appended in reverse), records the nodes in visit order and returns that order
    *reversed*.  On a proper tree (no node object occurs twice, so the identity de-duplication never fires) `iter_subtrees_children_first` proves what
    `inplace_eq_recursive` assumes: every node is yielded after all of its children — hence after its whole subtree — and every subtree is yielded.
    Nodes carry a unique id (`Tree` objects are compared by identity in the code). -/
namespace IterProto

inductive T where
  | node (id : Nat) (kids : List T)

def T.kids : T → List T
  | .node _ ks => ks

mutual
  def T.size : T → Nat
    | .node _ ks => 1 + sizes ks
  def sizes : List T → Nat
    | [] => 0
    | t :: ts => t.size + sizes ts
end

theorem sizes_append (a b : List T) : sizes (a ++ b) = sizes a + sizes b := by
  induction a with
  | nil => simp [sizes]
  | cons t ts ih => simp [sizes, ih, Nat.add_assoc]

theorem sizes_reverse (a : List T) : sizes a.reverse = sizes a := by
  induction a with
  | nil => rfl
  | cons t ts ih => simp [sizes, sizes_append, ih, Nat.add_comm]

/-- the queue loop: `for subtree in queue: …; queue += reversed(children)` — the visit order -/
def bfs : Nat → List T → List T
  | 0, _ => []
  | _, [] => []
  | f+1, t :: q => t :: bfs f (q ++ t.kids.reverse)

/-- `iter_subtrees`: the visit order, reversed -/
def iterSubtrees (t : T) : List T := (bfs t.size [t]).reverse

/-- fuel: visiting the head of the queue uses one unit and leaves a queue of the remaining size -/
theorem sizes_step {f : Nat} {t : T} {q : List T} (h : sizes (t :: q) ≤ f + 1) : sizes (q ++ t.kids.reverse) ≤ f := by
  cases t with
  | node i ks =>
    simp only [sizes, T.size, T.kids, sizes_append, sizes_reverse] at h ⊢
    omega

/-- everything in the queue gets visited (with enough fuel) -/
theorem mem_bfs (f : Nat) (q : List T) (hq : sizes q ≤ f) : ∀ c ∈ q, c ∈ bfs f q := by
  fun_induction bfs f q with
  | case1 q =>
    cases q with
    | nil => intro c hc; cases hc
    | cons t q' => cases t with | node i ks => simp [sizes, T.size] at hq
  | case2 f => intro c hc; cases hc
  | case3 f t q ih =>
    intro c hc
    rcases List.mem_cons.mp hc with rfl | hc'
    · exact List.mem_cons_self ..
    · exact List.mem_cons_of_mem _ (ih (sizes_step hq) c (List.mem_append_left _ hc'))

/-- in the visit order, the children of every occurrence of a node come later -/
theorem bfs_children_after (f : Nat) (q : List T) (hq : sizes q ≤ f) :
    ∀ l1 x l2, bfs f q = l1 ++ x :: l2 → ∀ c ∈ x.kids, c ∈ l2 := by
  fun_induction bfs f q with
  | case1 q => intro l1 x l2 h; cases l1 <;> cases h
  | case2 f => intro l1 x l2 h; cases l1 <;> cases h
  | case3 f t q ih =>
    intro l1 x l2 h c hc
    cases l1 with
    | nil =>
      obtain ⟨rfl, rfl⟩ := List.cons.inj h
      exact mem_bfs f _ (sizes_step hq) c (List.mem_append_right _ (List.mem_reverse.mpr hc))
    | cons y l1' => exact ih (sizes_step hq) l1' x l2 (List.cons.inj h).2 c hc

/-- subtrees of a tree (the tree itself and, transitively, the children) -/
inductive Sub (t : T) : T → Prop
  | self : Sub t t
  | kid (x c : T) : Sub t x → c ∈ x.kids → Sub t c

/-- **`iter_subtrees` yields children first**: at every occurrence of a node in the yielded order, all its children have been yielded before. -/
theorem iter_subtrees_children_first (t : T) (l1 : List T) (x : T) (l2 : List T) (h : iterSubtrees t = l1 ++ x :: l2) :
    ∀ c ∈ x.kids, c ∈ l1 := by
  intro c hc
  have hrev : bfs t.size [t] = l2.reverse ++ x :: l1.reverse := by
    have := congrArg List.reverse h
    simpa [iterSubtrees] using this
  have := bfs_children_after t.size [t] (by simp [sizes]) _ x _ hrev c hc
  exact List.mem_reverse.mp this

/-- … and it yields every subtree. -/
theorem iter_subtrees_complete (t : T) : ∀ x, Sub t x → x ∈ iterSubtrees t := by
  intro x hx
  induction hx with
  | self => exact List.mem_reverse.mpr (mem_bfs t.size [t] (by simp [sizes]) t (List.mem_cons_self ..))
  | kid x c _ hc ih =>
    obtain ⟨l1, l2, hsplit⟩ := List.append_of_mem ih
    rw [hsplit]
    exact List.mem_append_left _ (iter_subtrees_children_first t l1 x l2 hsplit c hc)

-- non-vacuity: a(b(d), c): the queue visits a, c, b, d; `iter_subtrees` yields d, b, c, a
example : (iterSubtrees (.node 0 [.node 1 [.node 3 []], .node 2 []])).map (fun | .node i _ => i) = [3, 1, 2, 0] := by decide

end IterProto
