import LarkVerif.Earley
/-! # Removing unused rules (`lark/load_grammar.py GrammarBuilder._remove_unused` / `Grammar.compile`'s "Filter out unused rules")

After an import (and again when the grammar is compiled) lark drops every definition that nothing kept mentions.  Whatever the exact removal procedure —
lark iterates "drop a rule no *other* remaining rule mentions", which keeps dead rules that mention each other — the result `G'` satisfies two local,
decidable conditions with respect to the full grammar `G`: it is a sub-grammar, and it is *closed*: every rule of a symbol that a kept rule (or the start
symbol) mentions is kept.  Under these two conditions the language of every kept symbol — in particular of the start symbol — is unchanged. -/
namespace EarleyProto

/-- A derivation uses only rules of nonterminals reachable from its form: if `P` is a set of nonterminals closed under "occurs in a right-hand
    side of one of its rules" and `G'` has every rule `G` has for them, derivations from forms over `P` carry over from `G` to `G'`. -/
theorem DerivesSeq.mono_on {G G' : Grammar} (P : Nat → Prop)
    (hP : ∀ r ∈ G.rules, P r.lhs → r ∈ G'.rules ∧ ∀ B, Sym.nt B ∈ r.rhs → P B)
    {β : List Sym} {w : List Nat} (h : DerivesSeq G β w) : (∀ B, Sym.nt B ∈ β → P B) → DerivesSeq G' β w := by
  induction h with
  | nil => exact fun _ => DerivesSeq.nil
  | term a rest ts _ ih => exact fun hβ => DerivesSeq.term a rest ts (ih fun B hB => hβ B (List.mem_cons_of_mem _ hB))
  | nonterm r rest ts1 ts2 hr _ _ ih1 ih2 =>
    intro hβ
    obtain ⟨hr', hrhs⟩ := hP r hr (hβ _ (List.mem_cons_self ..))
    exact DerivesSeq.nonterm r rest ts1 ts2 hr' (ih1 hrhs) (ih2 fun B hB => hβ B (List.mem_cons_of_mem _ hB))

end EarleyProto

namespace PruneProto
open EarleyProto

/-- `keep` is closed from `roots`: all rules of the roots are kept, and all rules of every nonterminal a kept rule mentions are kept -/
structure Closed (G : Grammar) (keep : Rule → Bool) (roots : List Nat) : Prop where
  root : ∀ A ∈ roots, ∀ r ∈ G.rules, r.lhs = A → keep r = true
  step : ∀ r ∈ G.rules, keep r = true → ∀ B, Sym.nt B ∈ r.rhs → ∀ r' ∈ G.rules, r'.lhs = B → keep r' = true

def pruned (G : Grammar) (keep : Rule → Bool) : Grammar := ⟨G.rules.filter keep⟩

/-- a symbol all of whose rules are kept -/
def Good (G : Grammar) (keep : Rule → Bool) (A : Nat) : Prop := ∀ r ∈ G.rules, r.lhs = A → keep r = true

theorem derives_pruned {G : Grammar} {keep : Rule → Bool} (hstep : ∀ r ∈ G.rules, keep r = true → ∀ B, Sym.nt B ∈ r.rhs → Good G keep B)
    {β : List Sym} {w : List Nat} (h : DerivesSeq G β w) (hβ : ∀ B, Sym.nt B ∈ β → Good G keep B) : DerivesSeq (pruned G keep) β w :=
  h.mono_on (Good G keep) (fun r hr hg => ⟨List.mem_filter.mpr ⟨hr, hg r hr rfl⟩, hstep r hr (hg r hr rfl)⟩) hβ

theorem derives_of_pruned {G : Grammar} {keep : Rule → Bool} {β : List Sym} {w : List Nat} (h : DerivesSeq (pruned G keep) β w) :
    DerivesSeq G β w :=
  h.mono_on (fun _ => True) (fun _ hr _ => ⟨(List.mem_filter.mp hr).1, fun _ _ => trivial⟩) fun _ _ => trivial

/-- **Pruning preserves the language of every root** (and of every sentential form over kept symbols). -/
theorem prune_preserves_language (G : Grammar) (keep : Rule → Bool) (roots : List Nat) (h : Closed G keep roots) (A : Nat) (hA : A ∈ roots) (w : List Nat) :
    DerivesSeq (pruned G keep) [Sym.nt A] w ↔ DerivesSeq G [Sym.nt A] w :=
  ⟨derives_of_pruned, fun hd => derives_pruned h.step hd fun B hB => by cases List.mem_singleton.mp hB; exact h.root A hA⟩

/-- the decidable form of `Closed`, evaluated on lark's compiled rule set against the rules before pruning -/
def closedB (G : Grammar) (keep : Rule → Bool) (roots : List Nat) : Bool :=
  (roots.all fun A => G.rules.all fun r => !(r.lhs == A) || keep r) &&
  (G.rules.all fun r => !keep r || r.rhs.all fun s => match s with
    | Sym.nt B => G.rules.all fun r' => !(r'.lhs == B) || keep r'
    | Sym.t _ => true)

theorem closedB_sound (G : Grammar) (keep : Rule → Bool) (roots : List Nat) (h : closedB G keep roots = true) : Closed G keep roots := by
  simp only [closedB, Bool.and_eq_true, List.all_eq_true, Bool.not_or_eq_true_iff, beq_iff_eq] at h
  refine ⟨h.1, fun r hr hk B hB => ?_⟩
  simpa only [List.all_eq_true, Bool.not_or_eq_true_iff, beq_iff_eq] using h.2 r hr hk (Sym.nt B) hB

/-- non-vacuity: `S → a | T`, `T → b`, dead `U → U c` (mentions only itself): dropping `U` is closed from `S` -/
def exG : Grammar := ⟨[⟨0, [Sym.t 0]⟩, ⟨0, [Sym.nt 1]⟩, ⟨1, [Sym.t 1]⟩, ⟨2, [Sym.nt 2, Sym.t 2]⟩]⟩
example : closedB exG (fun r => r.lhs != 2) [0] = true := by decide

end PruneProto
