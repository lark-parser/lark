import LarkVerif.LR0
/-! # The correct-prefix property of a checked LR(0) automaton (C08/C02, LALR clause "every terminal in `accepts` can legally come next")

For an automaton that passes `LR0.checkLR0` (lark's exported item sets, kernels and transitions do, per generated grammar) every item of a state
reached from the start state along the symbols `γ` is *valid* for `γ`: `γ = δ ++ (the symbols before the dot)` and the item's left-hand side is
wanted after `δ` by a context that can be completed to a sentence.  Consequence (`shift_symbol_viable`): if the state reached along `γ` has an
item with the dot in front of terminal `a` — i.e. the automaton has a transition on `a`, the only way the LALR table gets a shift action — then
for every token string `u` that reduces to `γ` some sentence begins with `u ++ [a]`: a shifted terminal can legally come next.  Needs productive
rules, like the Earley statement, and for the same reason: both rest on `EarleyProto.Productive.wanted_after`. -/
namespace LR0
open EarleyProto

/-- `A` is wanted after the stack symbols `δ`: whatever `δ` and `A` derive can be completed to a sentence -/
def Ctx (G : Grammar) (start : Nat) (δ : List Sym) (A : Nat) : Prop :=
  ∀ u v, DerivesSeq G δ u → DerivesSeq G [Sym.nt A] v → ∃ w, DerivesSeq G [Sym.nt start] (u ++ v ++ w)

/-- item `(r, d)` is valid for the viable prefix `γ` -/
def ItemValid (G : Grammar) (start : Nat) (γ : List Sym) (x : It) : Prop :=
  x.1 ∈ G.rules ∧ ∃ δ, γ = δ ++ x.1.rhs.take x.2 ∧ Ctx G start δ x.1.lhs

/-- states reachable from `q0`, with the symbols spelled on the way (the parser's symbol stack) -/
inductive Reach (A : Auto) (q0 : Nat) : List Sym → Nat → Prop
  | nil : Reach A q0 [] q0
  | step (γ p X q) : Reach A q0 γ p → (p, X, q) ∈ A.trans → Reach A q0 (γ ++ [X]) q

theorem Reach.lt {A : Auto} {G : Grammar} (h : checkLR0 G A = true) {q0 : Nat} (h0 : q0 < A.items.length) {γ q} (hr : Reach A q0 γ q) :
    q < A.items.length := by
  cases hr with
  | nil => exact h0
  | step γ p X q _ ht => exact ((checkLR0_sound G A h).2.1 p X q ht).1

/-- what validity is for: tokens for the prefix, then tokens for a stretch `β` behind the dot, begin a sentence -/
theorem ItemValid.completes {G : Grammar} {start : Nat} (hP : Productive G) {γ : List Sym} {r : Rule} {d : Nat}
    (hv : ItemValid G start γ (r, d)) {β γ' : List Sym} (hdrop : r.rhs.drop d = β ++ γ')
    {u v : List Nat} (hu : DerivesSeq G γ u) (hβ : DerivesSeq G β v) : ∃ w, DerivesSeq G [Sym.nt start] (u ++ v ++ w) := by
  obtain ⟨hr, δ, rfl, hctx⟩ := hv
  obtain ⟨u1, u2, rfl, h1, h2⟩ := hu.split
  exact hP.wanted_after hr hdrop (fun v => hctx u1 v h1) h2 hβ

theorem ItemValid.advance {G : Grammar} {start : Nat} {γ : List Sym} {r : Rule} {d : Nat} {X : Sym}
    (hv : ItemValid G start γ (r, d)) (hs : r.rhs[d]? = some X) : ItemValid G start (γ ++ [X]) (r, d + 1) := by
  obtain ⟨hr, δ, hγ, hctx⟩ := hv
  refine ⟨hr, δ, ?_, hctx⟩
  simp only at hγ ⊢
  rw [take_succ_of_getElem? hs, hγ, List.append_assoc]

theorem ItemValid.closure {G : Grammar} {start : Nat} (hP : Productive G) {γ : List Sym} {K : List It}
    (hK : ∀ x ∈ K, ItemValid G start γ x) {x : It} (hx : Closure G K x) : ItemValid G start γ x := by
  induction hx with
  | kernel it hit => exact hK it hit
  | pred r d B r' _ hs hr' hl ih =>
    exact ⟨hr', γ, by simp, fun _ _ hu hB => ih.completes hP (drop_eq_cons_iff.mpr ⟨hs, rfl⟩) hu (hl ▸ hB)⟩

/-- **Every item of a reachable state of a checked automaton is valid for the symbols that lead there.** -/
theorem item_valid {G : Grammar} {A : Auto} {start q0 : Nat} (h : checkLR0 G A = true) (hP : Productive G) (h0 : q0 < A.items.length)
    (hstart : ∀ x ∈ A.kernelOf q0, x.2 = 0 ∧ x.1.lhs = start ∧ x.1 ∈ G.rules) :
    ∀ {γ q}, Reach A q0 γ q → ∀ x, x ∈ A.itemsOf q → ItemValid G start γ x := by
  obtain ⟨hitems, htrans, -⟩ := checkLR0_sound G A h
  intro γ q hr
  induction hr with
  | nil =>
    refine fun x hx => ItemValid.closure hP ?_ ((hitems q0 h0 x).mp hx)
    intro (r, d) hy
    obtain ⟨rfl, rfl, hmem⟩ := hstart _ hy
    exact ⟨hmem, [], rfl, fun u v hu hv => by cases hu; exact ⟨[], by simpa using hv⟩⟩
  | step γ p X q _ ht ih =>
    obtain ⟨hq, hker⟩ := htrans p X q ht
    refine fun x hx => ItemValid.closure hP ?_ ((hitems q hq x).mp hx)
    intro (r, e) hy
    obtain ⟨d, hin, hs, rfl⟩ := (hker _).mp hy
    exact (ih (r, d) hin).advance hs

/-- **A terminal the reached state can shift can legally come next**: for every token string that reduces to the stack symbols `γ`, some
    sentence begins with it followed by that terminal. -/
theorem shift_symbol_viable {G : Grammar} {A : Auto} {start q0 : Nat} (h : checkLR0 G A = true) (hP : Productive G) (h0 : q0 < A.items.length)
    (hstart : ∀ x ∈ A.kernelOf q0, x.2 = 0 ∧ x.1.lhs = start ∧ x.1 ∈ G.rules)
    {γ : List Sym} {q : Nat} (hr : Reach A q0 γ q) {r : Rule} {d a : Nat} (hin : (r, d) ∈ A.itemsOf q) (hs : r.rhs[d]? = some (Sym.t a))
    {u : List Nat} (hu : DerivesSeq G γ u) : ∃ w, DerivesSeq G [Sym.nt start] (u ++ a :: w) := by
  obtain ⟨w, hw⟩ := (item_valid h hP h0 hstart hr (r, d) hin).completes hP (drop_eq_cons_iff.mpr ⟨hs, rfl⟩) hu
    (DerivesSeq.term a [] [] DerivesSeq.nil)
  exact ⟨w, by simpa using hw⟩

/-- a transition on a terminal exists only where an item has its dot in front of it (so "the table has a shift on `a`" gives the premise above) -/
theorem trans_has_item {G : Grammar} {A : Auto} (h : checkLR0 G A = true) {p q : Nat} {X : Sym} (ht : (p, X, q) ∈ A.trans)
    (hne : A.kernelOf q ≠ []) : ∃ r d, (r, d) ∈ A.itemsOf p ∧ r.rhs[d]? = some X := by
  obtain ⟨y, hy⟩ := List.exists_mem_of_ne_nil _ hne
  obtain ⟨d, hin, hs, _⟩ := (((checkLR0_sound G A h).2.1 p X q ht).2 y).mp hy
  exact ⟨y.1, d, hin, hs⟩

end LR0
