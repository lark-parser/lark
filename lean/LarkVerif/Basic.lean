namespace Proto

/-- lark/utils.py small_factors, with the search loop made explicit. -/
def findA (n maxFactor : Nat) : Nat → Option (Nat × Nat)
  | 0 => none
  | 1 => none
  | a+1 =>
    let b := n % (a+1)
    if (a+1) + b ≤ maxFactor then some (a+1, b) else findA n maxFactor a

def smallFactors (n maxFactor : Nat) : List (Nat × Nat) :=
  if h : n ≤ maxFactor then [(n, 0)]
  else
    match hf : findA n maxFactor maxFactor with
    | none => []   -- `assert False` in the code
    | some (a, b) =>
      if ha : 2 ≤ a then
        have : n / a < n := Nat.div_lt_self (by omega) ha
        smallFactors (n / a) maxFactor ++ [(a, b)]
      else []
termination_by n

def evalFactors (l : List (Nat × Nat)) : Nat := l.foldl (fun n ab => n * ab.1 + ab.2) 1

theorem findA_spec (n mf : Nat) (hmf : 2 < mf) {a : Nat} (ha : 2 ≤ a) : ∃ x, findA n mf a = some (x, n % x) ∧ 2 ≤ x ∧ x + n % x ≤ mf := by
  fun_induction findA n mf a with
  | case1 => cases ha
  | case2 => exact absurd ha (by decide)
  | case3 a _ b h => exact ⟨a + 1, rfl, ha, h⟩
  | case4 a _ b h ih =>
    cases ha with
    | refl => exact absurd (by omega) h   -- the search stops at `2` at the latest: `2 + n % 2 ≤ 3 ≤ mf`
    | step ha => exact ih ha

theorem evalFactors_append (l : List (Nat × Nat)) (a b : Nat) :
    evalFactors (l ++ [(a,b)]) = evalFactors l * a + b := by
  simp [evalFactors, List.foldl_append]

/-- with `2 < mf` the `assert False` branch is never taken -/
theorem smallFactors_induct {mf : Nat} (hmf : 2 < mf) {P : Nat → List (Nat × Nat) → Prop}
    (small : ∀ n, n ≤ mf → P n [(n, 0)])
    (split : ∀ n a, mf < n → 2 ≤ a → a + n % a ≤ mf → P (n / a) (smallFactors (n / a) mf) →
      P n (smallFactors (n / a) mf ++ [(a, n % a)])) (n : Nat) : P n (smallFactors n mf) := by
  have found n := findA_spec n mf hmf (Nat.le_of_lt hmf)
  fun_induction smallFactors n mf with
  | case1 n h => exact small n h
  | case2 n h hf => obtain ⟨_, ⟨⟩, -⟩ := hf ▸ found n
  | case3 n h a b hf ha _ ih => obtain ⟨_, ⟨⟩, -, hle⟩ := hf ▸ found n; exact split n a (Nat.lt_of_not_le h) ha hle ih
  | case4 n h a b hf ha => obtain ⟨_, ⟨⟩, h2, -⟩ := hf ▸ found n; exact absurd h2 ha

theorem smallFactors_correct (mf : Nat) (hmf : 2 < mf) (n : Nat) :
    evalFactors (smallFactors n mf) = n :=
  smallFactors_induct hmf (P := fun n l => evalFactors l = n)
    (fun n _ => by simp [evalFactors])
    (fun n a _ _ _ ih => by rw [evalFactors_append, ih, Nat.mul_comm]; exact Nat.div_add_mod n a) n

theorem smallFactors_pos (mf : Nat) (hmf : 2 < mf) (n : Nat) :
    1 ≤ n → ∀ ab ∈ smallFactors n mf, 1 ≤ ab.1 :=
  smallFactors_induct hmf (P := fun n l => 1 ≤ n → ∀ ab ∈ l, 1 ≤ ab.1)
    (fun n _ hn ab hab => by rw [List.mem_singleton.mp hab]; exact hn)
    (fun n a hn ha hle ih _ ab hab => by
      rcases List.mem_append.mp hab with h | h
      · exact ih (Nat.div_pos (by omega) (by omega)) ab h
      · rw [List.mem_singleton.mp h]; omega) n

end Proto
