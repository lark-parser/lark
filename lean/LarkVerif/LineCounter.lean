namespace LCProto

abbrev NL : Char := '\n'

/-- number of newlines (`str.count`) -/
def countNL (s : List Char) : Nat := s.count NL

/-- offset just after the last newline, 0 if none (`str.rindex('\n') + 1` when there is one) -/
def lastNLEnd : List Char → Nat
  | [] => 0
  | c :: cs => if NL ∈ cs then 1 + lastNLEnd cs else if c = NL then 1 else 0

theorem lastNLEnd_of_not_mem (s : List Char) (h : NL ∉ s) : lastNLEnd s = 0 := by
  fun_induction lastNLEnd s with
  | case1 => rfl
  | case2 c cs hm => exact absurd (List.mem_cons_of_mem c hm) h
  | case3 cs _ => exact absurd List.mem_cons_self h
  | case4 => rfl

theorem lastNLEnd_le (s : List Char) : lastNLEnd s ≤ s.length := by
  fun_induction lastNLEnd s with
  | case1 => exact Nat.le_refl 0
  | case2 c cs _ ih => rw [List.length_cons]; omega
  | case3 c cs => exact Nat.succ_le_succ (Nat.zero_le _)
  | case4 c cs => exact Nat.zero_le _

theorem lastNLEnd_append (a b : List Char) :
    lastNLEnd (a ++ b) = if NL ∈ b then a.length + lastNLEnd b else lastNLEnd a := by
  by_cases h : NL ∈ b
  · rw [if_pos h]
    induction a with
    | nil => simp
    | cons c a ih => rw [List.cons_append, lastNLEnd, if_pos (List.mem_append_right _ h), ih, List.length_cons]; omega
  · rw [if_neg h]
    induction a with
    | nil => exact lastNLEnd_of_not_mem b h
    | cons c a ih => simp only [List.cons_append, lastNLEnd, List.mem_append, h, or_false, ih]

theorem lastNLEnd_snoc (s : List Char) (c : Char) : lastNLEnd (s ++ [c]) = if c = NL then s.length + 1 else lastNLEnd s := by
  simp only [lastNLEnd_append, List.mem_singleton, eq_comm (a := NL), lastNLEnd, List.not_mem_nil, if_false]
  split <;> rfl

theorem countNL_eq_zero_iff (s : List Char) : countNL s = 0 ↔ NL ∉ s := by
  simp [countNL, List.count_eq_zero]

theorem countNL_append (a b : List Char) : countNL (a ++ b) = countNL a + countNL b := List.count_append ..

theorem countNL_snoc (s : List Char) (c : Char) : countNL (s ++ [c]) = if c = NL then countNL s + 1 else countNL s := by
  simp only [countNL, List.count_append, List.count_singleton, beq_iff_eq]; split <;> rfl

structure LineCounter where
  charPos : Nat
  line : Nat
  column : Nat
  lineStartPos : Nat
deriving Repr, DecidableEq

def LineCounter.init : LineCounter := ⟨0, 1, 1, 0⟩

/-- lark/lexer.py:324 LineCounter.feed -/
def LineCounter.feed (lc : LineCounter) (tok : List Char) (testNewline : Bool) : LineCounter :=
  let lc1 :=
    if testNewline then
      let n := countNL tok
      if n ≠ 0 then { lc with line := lc.line + n, lineStartPos := lc.charPos + lastNLEnd tok } else lc
    else lc
  let cp := lc1.charPos + tok.length
  { lc1 with charPos := cp, column := cp - lc1.lineStartPos + 1 }

theorem feed_eq (lc : LineCounter) (tok : List Char) (test : Bool) (hflag : test = true ∨ NL ∉ tok) :
    lc.feed tok test =
      let lsp := if NL ∈ tok then lc.charPos + lastNLEnd tok else lc.lineStartPos
      ⟨lc.charPos + tok.length, lc.line + countNL tok, lc.charPos + tok.length - lsp + 1, lsp⟩ := by
  by_cases hnl : NL ∈ tok
  · have ht : test = true := hflag.resolve_right (not_not_intro hnl)
    simp [LineCounter.feed, ht, countNL_eq_zero_iff, hnl]
  · have hc : countNL tok = 0 := (countNL_eq_zero_iff tok).mpr hnl
    cases test <;> simp [LineCounter.feed, hc, hnl]

/-- the specification: `lc` holds the 1-based line and column of offset `lc.charPos` in `text` -/
structure Exact (text : List Char) (lc : LineCounter) : Prop where
  inb : lc.charPos ≤ text.length
  line : lc.line = 1 + countNL (text.take lc.charPos)
  start : lc.lineStartPos = lastNLEnd (text.take lc.charPos)
  col : lc.column = lc.charPos - lc.lineStartPos + 1

theorem Exact.feed {text : List Char} {lc : LineCounter} (h : Exact text lc) {tok post : List Char}
    (hd : text.drop lc.charPos = tok ++ post) {test : Bool} (hflag : test = true ∨ NL ∉ tok) :
    Exact text (lc.feed tok test) ∧ (lc.feed tok test).charPos = lc.charPos + tok.length := by
  have ht : text.take (lc.charPos + tok.length) = text.take lc.charPos ++ tok := by rw [List.take_add, hd, List.take_left]
  have hk : lc.charPos + tok.length ≤ text.length := by
    have := List.length_take_le' (lc.charPos + tok.length) text
    rwa [ht, List.length_append, List.length_take_of_le h.inb] at this
  rw [feed_eq lc tok test hflag]
  refine ⟨⟨hk, ?_, ?_, rfl⟩, rfl⟩
  · show lc.line + countNL tok = 1 + countNL (text.take (lc.charPos + tok.length))
    rw [ht, countNL_append, h.line, Nat.add_assoc]
  · show (if _ then _ else _) = lastNLEnd (text.take (lc.charPos + tok.length))
    rw [ht, lastNLEnd_append, List.length_take_of_le h.inb, h.start]

/-- `feed` is exact whenever the newline test is on, or the token has no newline. -/
theorem feed_exact (pre tok post : List Char) (lc : LineCounter) (test : Bool)
    (hpos : lc.charPos = pre.length) (h : Exact (pre ++ tok ++ post) lc)
    (hflag : test = true ∨ NL ∉ tok) :
    Exact (pre ++ tok ++ post) (lc.feed tok test) ∧ (lc.feed tok test).charPos = pre.length + tok.length := by
  have := h.feed (tok := tok) (post := post) (by rw [hpos, List.append_assoc, List.drop_left]) hflag
  rwa [hpos] at this

/-- the flag matters: with the test off, a token containing a newline breaks exactness (F1's mechanism) -/
example : ¬ Exact ['b', '\n', 'b'] ((LineCounter.init.feed ['b'] false).feed ['\n'] false) := by
  intro h; have := h.line; simp [LineCounter.feed, LineCounter.init, countNL] at this; exact absurd this (by decide)


/-- lark/lexer.py:338 `advance_to`: count the newlines of `text[char_pos:pos]`.
    (`text.rindex(nl, a, b) + 1 = a + lastNLEnd text[a:b]` is the meaning of the builtin.) -/
def LineCounter.advanceTo (lc : LineCounter) (text : List Char) (pos : Nat) : LineCounter :=
  lc.feed ((text.drop lc.charPos).take (pos - lc.charPos)) true

/-- lark/lexer.py:304 `from_text_slice` without a snapshot -/
def LineCounter.fromStart (text : List Char) (start : Nat) : LineCounter :=
  LineCounter.init.advanceTo text start

theorem init_exact (text : List Char) : Exact text LineCounter.init := ⟨Nat.zero_le _, rfl, rfl, rfl⟩

theorem advanceTo_exact (text : List Char) (lc : LineCounter) (pos : Nat) (h : Exact text lc)
    (h1 : lc.charPos ≤ pos) (h2 : pos ≤ text.length) :
    Exact text (lc.advanceTo text pos) ∧ (lc.advanceTo text pos).charPos = pos := by
  have := h.feed (test := true) (List.take_append_drop (pos - lc.charPos) _).symm (Or.inl rfl)
  rwa [List.length_take_of_le (List.length_drop ▸ Nat.sub_le_sub_right h2 _), Nat.add_sub_cancel' h1] at this

/-- C15 / C14: a lexer started on a window `[start, …)` of `text` begins with the coordinates of the full text,
    and by `feed_exact` keeps them for every token it emits -/
theorem fromStart_exact (text : List Char) (start : Nat) (h : start ≤ text.length) :
    Exact text (LineCounter.fromStart text start) ∧ (LineCounter.fromStart text start).charPos = start :=
  advanceTo_exact text LineCounter.init start (init_exact text) (Nat.zero_le _) h

/-- `_TextSlice_WithLineCount` (lexer.py:309-313): resuming from a snapshot `(line, line_start_pos)` taken by an
    exact counter at `start` is exact -/
theorem resume_exact (text : List Char) (lc : LineCounter) (h : Exact text lc) :
    Exact text ⟨lc.charPos, lc.line, lc.charPos - lc.lineStartPos + 1, lc.lineStartPos⟩ :=
  ⟨h.inb, h.line, h.start, rfl⟩


/-- SPEC: 1-based (line, column) of offset `p` -/
def coord (text : List Char) (p : Nat) : Nat × Nat :=
  (1 + countNL (text.take p), p - lastNLEnd (text.take p) + 1)

theorem Exact.coord_eq {text : List Char} {lc : LineCounter} (h : Exact text lc) :
    (lc.line, lc.column) = coord text lc.charPos := by
  rw [coord, ← h.line, ← h.start, ← h.col]

structure Stamp where
  startPos : Nat
  line : Nat
  column : Nat
  endPos : Nat
  endLine : Nat
  endColumn : Nat
deriving Repr, DecidableEq

def Stamp.spec (text : List Char) (s e : Nat) : Stamp :=
  ⟨s, (coord text s).1, (coord text s).2, e, (coord text e).1, (coord text e).2⟩

/-- one iteration of `BasicLexer.next_token` (lexer.py:705-710): stamp the start, `feed`, stamp the end -/
def stampFeed (lc : LineCounter) (tok : List Char) (flag : Bool) : Stamp × LineCounter :=
  let lc' := lc.feed tok flag
  (⟨lc.charPos, lc.line, lc.column, lc'.charPos, lc'.line, lc'.column⟩, lc')

/-- the lexer loop over a tiling: tokens `(value, type ∈ newline_types)` in order, counter threaded through -/
def stampAll (lc : LineCounter) : List (List Char × Bool) → List Stamp
  | [] => []
  | (tok, flag) :: rest => (stampFeed lc tok flag).1 :: stampAll (stampFeed lc tok flag).2 rest

/-- the offsets a tiling assigns, starting at `p` -/
def specAll (text : List Char) (p : Nat) : List (List Char × Bool) → List Stamp
  | [] => []
  | (tok, _) :: rest => Stamp.spec text p (p + tok.length) :: specAll text (p + tok.length) rest

def flatToks : List (List Char × Bool) → List Char
  | [] => []
  | (tok, _) :: rest => tok ++ flatToks rest

theorem Exact.stamp {text : List Char} {lc : LineCounter} (h : Exact text lc) {tok post : List Char}
    (hd : text.drop lc.charPos = tok ++ post) {flag : Bool} (hflag : flag = true ∨ NL ∉ tok) :
    (stampFeed lc tok flag).1 = Stamp.spec text lc.charPos (lc.charPos + tok.length) := by
  obtain ⟨hE, hcp⟩ := h.feed hd hflag
  have c1 := h.coord_eq
  have c2 := hE.coord_eq
  rw [hcp] at c2
  simp only [stampFeed, Stamp.spec, hcp, ← c1, ← c2]

/-- C06, basic/contextual lexers: along any tiling whose newline flags are sound, every token carries
    exactly the source coordinates of its start and end. -/
theorem stampAll_exact {text post : List Char} (toks : List (List Char × Bool)) (lc : LineCounter) (hE : Exact text lc)
    (hd : text.drop lc.charPos = flatToks toks ++ post) (hfl : ∀ tf ∈ toks, tf.2 = true ∨ NL ∉ tf.1) :
    stampAll lc toks = specAll text lc.charPos toks := by
  induction toks generalizing lc with
  | nil => rfl
  | cons tf rest ih =>
    obtain ⟨tok, flag⟩ := tf
    rw [flatToks, List.append_assoc] at hd
    have hf := hfl _ (List.mem_cons_self ..)
    obtain ⟨h2, h3⟩ := hE.feed hd hf
    rw [stampAll, specAll, hE.stamp hd hf, show (stampFeed lc tok flag).2 = lc.feed tok flag from rfl,
      ih _ h2 (by rw [h3, ← List.drop_drop, hd, List.drop_left]) (fun tf h => hfl tf (List.mem_cons_of_mem _ h)), h3]

/-- the per-character counter of the dynamic Earley lexer (xearley.py:148-167) -/
def dynStep (st : Nat × Nat) (c : Char) : Nat × Nat :=
  if c = NL then (st.1 + 1, 1) else (st.1, st.2 + 1)

/-- `(text_line, text_column)` when the main loop is at offset `i` -/
def dynAt (text : List Char) (i : Nat) : Nat × Nat := (text.take i).foldl dynStep (1, 1)

theorem coord_succ (text : List Char) (i : Nat) (h : i < text.length) : coord text (i + 1) = dynStep (coord text i) text[i] := by
  have hlen : (text.take i).length = i := List.length_take_of_le (Nat.le_of_lt h)
  rw [coord, coord, List.take_succ_eq_append_getElem h, countNL_snoc, lastNLEnd_snoc, hlen, dynStep]
  split
  · rw [Nat.sub_self]; rfl
  · rw [Nat.succ_sub (Nat.le_trans (lastNLEnd_le _) (List.length_take_le i text))]

/-- C06, dynamic lexers: the running per-character counter is the coordinate of the current offset. -/
theorem dynAt_eq_coord (text : List Char) (i : Nat) (h : i ≤ text.length) : dynAt text i = coord text i := by
  induction i with
  | zero => rfl
  | succ i ih =>
    rw [coord_succ text i h, ← ih (Nat.le_of_lt h), dynAt, List.take_succ_eq_append_getElem h, List.foldl_append]
    rfl

/-- the token stamp of the dynamic lexer: start = counter at `s`; end = one column past the last character,
    on that character's line (the documented convention of this lexer family) -/
def dynStamp (text : List Char) (s e : Nat) : Stamp :=
  ⟨s, (dynAt text s).1, (dynAt text s).2, e, (dynAt text (e - 1)).1, (dynAt text (e - 1)).2 + 1⟩

theorem dynStamp_exact (text : List Char) (s e : Nat) (h1 : s < e) (h2 : e ≤ text.length) :
    dynStamp text s e = ⟨s, (coord text s).1, (coord text s).2, e, (coord text (e - 1)).1, (coord text (e - 1)).2 + 1⟩ := by
  rw [dynStamp, dynAt_eq_coord text s (Nat.le_trans (Nat.le_of_lt h1) h2), dynAt_eq_coord text (e - 1) (Nat.le_trans (Nat.sub_le e 1) h2)]

end LCProto
