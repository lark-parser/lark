namespace Sat

variable {α : Type} [DecidableEq α]

theorem filter_length_lt (l : List α) (p q : α → Bool)
    (hqp : ∀ x, q x = true → p x = true) (hx : ∃ x ∈ l, p x = true ∧ q x = false) :
    (l.filter q).length < (l.filter p).length := by
  -- `q` filters the `p`-filtered list once more, and drops the witness from it
  have hq : l.filter q = (l.filter p).filter q := by
    rw [List.filter_filter]
    exact List.filter_congr fun x _ => by cases h : q x <;> simp [hqp x, h]
  obtain ⟨x, hm, hp, hqx⟩ := hx
  rw [hq, List.length_filter_lt_length_iff_exists]
  exact ⟨x, List.mem_filter.mpr ⟨hm, hp⟩, by simp [hqx]⟩

/-- duplicate removal that keeps membership (without it `s` would accumulate copies and a cyclic,
    nullable grammar makes their number grow geometrically — found by the driver prototype) -/
def dedup : List α → List α
  | [] => []
  | x :: xs => if x ∈ dedup xs then dedup xs else x :: dedup xs

theorem mem_dedup (l : List α) (x : α) : x ∈ dedup l ↔ x ∈ l := by
  induction l with
  | nil => simp [dedup]
  | cons a l ih =>
    simp only [dedup]
    split
    · rename_i h
      simp only [List.mem_cons, ih]
      constructor
      · exact Or.inr
      · rintro (rfl | h')
        · exact (ih.mp h)
        · exact h'
    · simp only [List.mem_cons, ih]

/-- Generic saturation: add everything `step` produces that lies in the finite universe,
    until nothing new appears. Total by construction. -/
def saturate (univ : List α) (step : List α → List α) (s : List α) : List α :=
  let new := dedup ((step s).filter (fun x => decide (x ∈ univ) && !decide (x ∈ s)))
  if h : new = [] then s else saturate univ step (s ++ new)
termination_by (univ.filter (fun x => !decide (x ∈ s))).length
decreasing_by
  obtain ⟨x, hx⟩ := List.exists_mem_of_ne_nil _ h
  have hx' := List.mem_filter.mp ((mem_dedup _ x).mp hx)
  simp only [Bool.and_eq_true, decide_eq_true_eq, Bool.not_eq_true', decide_eq_false_iff_not] at hx'
  apply filter_length_lt
  · intro y hy
    simp only [Bool.not_eq_true', decide_eq_false_iff_not, List.mem_append, not_or] at hy ⊢
    exact hy.1
  · refine ⟨x, hx'.2.1, ?_, ?_⟩
    · simpa using hx'.2.2
    · simp only [Bool.not_eq_false', decide_eq_true_eq, List.mem_append]
      exact Or.inr hx

/-- the defining equation, for running `saturate` by hand (the theorems below follow the definition by `fun_induction`) -/
theorem saturate_eq (univ : List α) (step : List α → List α) (s : List α) :
    saturate univ step s =
      if dedup ((step s).filter (fun x => decide (x ∈ univ) && !decide (x ∈ s))) = [] then s
      else saturate univ step (s ++ dedup ((step s).filter (fun x => decide (x ∈ univ) && !decide (x ∈ s)))) := by
  rw [saturate]; rfl

theorem saturate_superset (univ : List α) (step : List α → List α) (s : List α) :
    ∀ x ∈ s, x ∈ saturate univ step s := by
  fun_induction saturate univ step s with
  | case1 s new h => exact fun x hx => hx
  | case2 s new h ih => exact fun x hx => ih x (List.mem_append_left _ hx)

/-- The result is closed under `step` (within the universe). -/
theorem saturate_closed (univ : List α) (step : List α → List α) (s : List α) :
    ∀ x ∈ step (saturate univ step s), x ∈ univ → x ∈ saturate univ step s := by
  fun_induction saturate univ step s with
  | case1 s new h =>
    intro x hx hu
    -- nothing new was found, so `x`, which `step s` yields inside the universe, is not new
    refine Decidable.by_contra fun hns => ?_
    have : x ∈ new := (mem_dedup _ x).mpr (List.mem_filter.mpr ⟨hx, by simp [hu, hns]⟩)
    rw [h] at this; cases this
  | case2 s new h ih => exact ih

/-- The result is the least such set: contained in every `P` that contains the seed and is closed. -/
theorem saturate_least (univ : List α) (step : List α → List α) (P : α → Prop)
    (hstep : ∀ t : List α, (∀ y ∈ t, P y) → ∀ x ∈ step t, P x) (s : List α) (hs : ∀ y ∈ s, P y) :
    ∀ x ∈ saturate univ step s, P x := by
  fun_induction saturate univ step s with
  | case1 s new h => exact hs
  | case2 s new h ih =>
    refine ih fun y hy => ?_
    rcases List.mem_append.mp hy with h1 | h2
    · exact hs y h1
    · exact hstep s hs y (List.mem_filter.mp ((mem_dedup _ y).mp h2)).1

end Sat
