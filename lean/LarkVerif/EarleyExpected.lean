import LarkVerif.EarleyExec
/-! C08 (Earley clause, continuation sets): the terminals reported as `expected` at a position — the terminals after the dot of the items of
    that chart column (`{item.expect for item in to_scan}`, earley.py:286, xearley.py:129) — are **exactly** the terminals that can legally come
    next: `a` is expected at `i` iff some reading `u` of the text up to `i` (a lattice path, ignored stretches anywhere) followed by `a` begins
    a sentence.  `←` (nothing that can come next is missing) holds for every grammar; `→` (nothing bogus is reported) needs every rule to be
    productive — without it the statement is false of the chart and of lark alike (`unproductive_counterexample`). `productiveB` is the
    decidable certificate the harness evaluates per grammar. -/
namespace EarleyProto

/-- terminal `a` is reported as expected at position `i` -/
def Expected (G : Grammar) (L : Lattice) (start i a : Nat) : Prop :=
  ∃ r d k, Chart G L start i ⟨r, d, k⟩ ∧ r.rhs[d]? = some (Sym.t a)

/-- terminal `a` can legally come next at position `i`: a sentence begins with a reading of the text up to `i` followed by `a` -/
def LegalNext (G : Grammar) (L : Lattice) (start i a : Nat) : Prop :=
  ∃ u w, Path L 0 i u ∧ DerivesSeq G [Sym.nt start] (u ++ a :: w)

/-- top-down validity of a chart item: its left-hand side is wanted at its origin by a context that can be completed to a sentence -/
def Valid (G : Grammar) (L : Lattice) (start k A : Nat) : Prop :=
  ∃ u0, Path L 0 k u0 ∧ ∀ v, DerivesSeq G [Sym.nt A] v → ∃ w, DerivesSeq G [Sym.nt start] (u0 ++ v ++ w)

/-- the symbol under the dot of an item with a valid origin is wanted, at the item's column, by a context that can be
    completed to a sentence (for `X = Sym.nt B` the conclusion is `Valid G L start i B`) -/
theorem Valid.under_dot {G : Grammar} {L : Lattice} {start : Nat} (hP : Productive G) {i r d k} {X : Sym}
    (hc : Chart G L start i ⟨r, d, k⟩) (hv : Valid G L start k r.lhs) (hd : r.rhs[d]? = some X) :
    ∃ u, Path L 0 i u ∧ ∀ v, DerivesSeq G [X] v → ∃ w, DerivesSeq G [Sym.nt start] (u ++ v ++ w) := by
  obtain ⟨u0, hp0, H⟩ := hv
  obtain ⟨ts, hp, hder⟩ := hc.sound
  exact ⟨u0 ++ ts, hp0.append hp, fun v hv => hP.wanted_after hc.rule_mem (drop_eq_cons_iff.mpr ⟨hd, rfl⟩) H hder hv⟩

theorem Chart.valid {G : Grammar} {L : Lattice} {start : Nat} (hP : Productive G) {i it} (h : Chart G L start i it) :
    Valid G L start it.origin it.rule.lhs := by
  induction h with
  | init r hr hs => exact ⟨[], Path.nil 0, fun v hv => ⟨[], by simpa [hs] using hv⟩⟩
  | predict i r d k r' hc hd hr' ih => exact ih.under_dot hP hc hd
  | scan i j r d k a _ _ _ ih => exact ih
  | ignore i j r d k a _ _ _ ih => exact ih
  | complete i j r' r d k _ _ _ _ ih2 => exact ih2
  | carry i j r k _ _ _ _ ih => exact ih

/-- **nothing bogus is expected** (productive grammars): a terminal reported as expected can legally come next -/
theorem expected_is_legal {G : Grammar} {L : Lattice} {start i a : Nat} (hP : Productive G) (h : Expected G L start i a) :
    LegalNext G L start i a := by
  obtain ⟨r, d, k, hc, hd⟩ := h
  obtain ⟨u, hp, H⟩ := (hc.valid hP).under_dot hP hc hd
  obtain ⟨w, hw⟩ := H [a] (DerivesSeq.term a [] [] DerivesSeq.nil)
  exact ⟨u, w, hp, by simpa using hw⟩

theorem Expected.ign {G : Grammar} {L : Lattice} {start i j a : Nat} (h : Expected G L start i a) (hi : IgnStar L i j) :
    Expected G L start j a := by
  obtain ⟨r, d, k, hc, hd⟩ := h
  exact ⟨r, d, k, hc.ignStar hd hi, hd⟩

/-- The completeness engine for continuation sets: an item whose remainder derives `u1 ++ a :: w` leads, over `u1`, to an item
    expecting `a`.  (With `Chart.advanceOver` for the case that nothing is left: what the chart holds after any prefix of a
    derivation of an item's remainder.) -/
theorem Chart.expects {G : Grammar} {L : Lattice} {start a : Nat} :
    ∀ {β : List Sym} {u : List Nat}, DerivesSeq G β u →
    ∀ {i j r d k} (γ : List Sym) (u1 w : List Nat), Chart G L start i ⟨r, d, k⟩ →
      r.rhs.drop d = β ++ γ → u = u1 ++ a :: w → Steps L i j u1 → Expected G L start j a := by
  intro β u h
  induction h with
  | nil => intro i j r d k γ u1 w _ _ hu _; cases u1 <;> cases hu
  | term b rest ts _ ih =>
    intro i j r d k γ u1 w hc hdrop hu hs
    obtain ⟨hd, hdrop'⟩ := drop_eq_cons_iff.mp hdrop
    cases hs with
    | nil => cases hu; exact ⟨r, d, k, hc, hd⟩
    | cons _ i' m _ _ u1' hi he hs' => cases hu; exact ih γ u1' w (hc.overTerm hd hi he) hdrop' rfl hs'
  | nonterm r' rest ts1 ts2 hr' hd1 _ ih1 ih2 =>
    intro i j r d k γ u1 w hc hdrop hu hs
    obtain ⟨hd, hdrop'⟩ := drop_eq_cons_iff.mp hdrop
    have hp := Chart.predict i r d k r' hc hd hr'
    -- once the yield of `r'` has been read (up to `m`), `r'` is completed and the search goes on in `rest`
    have after : ∀ (x : List Nat) (m : Nat), Steps L i m ts1 → Steps L m j x → ts2 = x ++ a :: w → Expected G L start j a :=
      fun x m hs1 hs2 h2 => ih2 γ x w (Chart.complete m i r' r d k (hp.advanceRule hd1 hs1) hc hd) hdrop' h2 hs2
    rcases List.append_eq_append_iff.mp hu with ⟨x, rfl, h2⟩ | ⟨x, h1, h2⟩
    · obtain ⟨m, hs1, hs2⟩ := Steps.split hs
      exact after x m hs1 hs2 h2
    · cases x with
      | nil => rw [List.append_nil] at h1; exact after [] j (h1 ▸ hs) (Steps.nil j) h2.symm
      | cons y x' => cases h2; exact ih1 [] u1 x' hp (by simp) h1 hs    -- `a` lies inside the yield of `r'`

/-- C08 (Earley clause): while the consumed lattice prefix can still be extended to a sentence, the chart
    column it ends in is not empty — so the parser raises only at the first position after which no sentence
    is possible. -/
theorem Chart.viable {G : Grammar} {L : Lattice} {start : Nat} :
    ∀ {β : List Sym} {u : List Nat}, DerivesSeq G β u →
    ∀ {i j r d k} (γ : List Sym) (u1 u2 : List Nat), Chart G L start i ⟨r, d, k⟩ →
      r.rhs.drop d = β ++ γ → u = u1 ++ u2 → Steps L i j u1 → ∃ it, Chart G L start j it := by
  intro β u h i j r d k γ u1 u2 hc hdrop hu hs
  cases u2 with
  | nil => rw [List.append_nil] at hu; exact ⟨_, Chart.advanceOver h γ hc hdrop (hu ▸ hs)⟩
  | cons a w =>
    obtain ⟨r', d', k', hc', _⟩ := Chart.expects h γ u1 w hc hdrop hu hs
    exact ⟨_, hc'⟩

/-- **nothing that can come next is missing** (every grammar): a terminal that can legally come next is reported as expected -/
theorem legal_is_expected {G : Grammar} {L : Lattice} {start i a : Nat} (h : LegalNext G L start i a) :
    Expected G L start i a := by
  obtain ⟨u, w, hp, hd⟩ := h
  obtain ⟨r, hr, hs, hder⟩ := hd.single_inv
  obtain ⟨m, hsteps, hign⟩ := hp.decompose
  exact (Chart.expects hder [] u w (Chart.init r hr hs) (by simp) rfl hsteps).ign hign

/-- **C08, dynamic Earley lexers: the expected set is exact.** -/
theorem expected_iff_legal {G : Grammar} {L : Lattice} {start i a : Nat} (hP : Productive G) :
    Expected G L start i a ↔ LegalNext G L start i a :=
  ⟨expected_is_legal hP, legal_is_expected⟩

/-! ### a decidable certificate for `Productive` -/

/-- `done` lists nonterminals already known to derive a terminal string -/
def symOk (done : List Nat) : Sym → Bool
  | Sym.t _ => true
  | Sym.nt A => done.contains A

/-- one pass over an ordering of the rules: a rule may be used once all nonterminals of its right-hand side are done -/
def certPass (G : Grammar) : List Rule → List Nat → Option (List Nat)
  | [], done => some done
  | r :: rs, done => if G.rules.contains r && r.rhs.all (symOk done) then certPass G rs (r.lhs :: done) else none

/-- the certificate: an ordering of rules passes, and afterwards every nonterminal on a right-hand side of `G` is done -/
def productiveB (G : Grammar) (order : List Rule) : Bool :=
  match certPass G order [] with
  | some done => G.rules.all fun r => r.rhs.all (symOk done)
  | none => false

def DoneOk (G : Grammar) (done : List Nat) : Prop := ∀ A ∈ done, ∃ w, DerivesSeq G [Sym.nt A] w

theorem derives_of_all {G : Grammar} {done : List Nat} (hD : DoneOk G done) :
    ∀ (β : List Sym), β.all (symOk done) = true → ∃ w, DerivesSeq G β w := by
  intro β
  induction β with
  | nil => intro _; exact ⟨[], DerivesSeq.nil⟩
  | cons s β ih =>
    intro h
    simp only [List.all_cons, Bool.and_eq_true] at h
    obtain ⟨w2, h2⟩ := ih h.2
    cases s with
    | t a => exact ⟨a :: w2, DerivesSeq.term a _ _ h2⟩
    | nt A =>
      have hA : A ∈ done := by simpa [symOk] using h.1
      obtain ⟨w1, h1⟩ := hD A hA
      exact ⟨w1 ++ w2, DerivesSeq.append h1 h2⟩

theorem certPass_ok {G : Grammar} : ∀ (order : List Rule) (done done' : List Nat), DoneOk G done →
    certPass G order done = some done' → DoneOk G done' := by
  intro order done done' hD h
  fun_induction certPass G order done with
  | case1 done => cases h; exact hD
  | case2 r rs done hc ih =>
    simp only [Bool.and_eq_true, List.contains_iff_mem] at hc
    obtain ⟨w, hw⟩ := derives_of_all hD r.rhs hc.2
    refine ih ?_ h
    intro A hA
    rcases List.mem_cons.mp hA with rfl | hA
    · exact ⟨w, DerivesSeq.single hc.1 hw⟩
    · exact hD A hA
  | case3 => cases h

/-- a grammar with a passing certificate is productive -/
theorem productiveB_sound {G : Grammar} {order : List Rule} (h : productiveB G order = true) : Productive G := by
  unfold productiveB at h
  split at h
  · rename_i done hpass
    have hD : DoneOk G done := certPass_ok order [] done (by intro A hA; cases hA) hpass
    intro r hr
    exact derives_of_all hD r.rhs (List.all_eq_true.mp h r hr)
  · cases h

/-- the executable continuation set of column `i` (what the driver prints and the harness compares with lark's `expected`/`allowed`) -/
def expectedAt (G : Grammar) (L : FLattice) (start i : Nat) : List Nat :=
  ((chart G L start).filter (fun x => x.col = i)).filterMap fun x => match x.rule.rhs[x.dot]? with
    | some (Sym.t a) => some a
    | _ => none

theorem mem_expectedAt_iff (G : Grammar) (L : FLattice) (hL : L.WF) (start i a : Nat) :
    a ∈ expectedAt G L start i ↔ Expected G L.toLattice start i a := by
  simp only [expectedAt, List.mem_filterMap, List.mem_filter, decide_eq_true_eq]
  constructor
  · rintro ⟨c, ⟨hc, hcol⟩, hx⟩
    have hC := (mem_chart_iff G L hL start c).mp hc
    refine ⟨c.rule, c.dot, c.origin, by simpa [CItem.item, hcol] using hC, ?_⟩
    split at hx
    · rename_i b hb; simp only [Option.some.injEq] at hx; subst hx; exact hb
    · cases hx
  · rintro ⟨r, d, k, hC, hd⟩
    refine ⟨⟨i, r, d, k⟩, ⟨(mem_chart_iff G L hL start ⟨i, r, d, k⟩).mpr hC, rfl⟩, ?_⟩
    simp [hd]

/-- the executable continuation set is exactly the set of terminals that can legally come next (productive grammars) -/
theorem expectedAt_exact (G : Grammar) (L : FLattice) (hL : L.WF) (start i a : Nat) (order : List Rule)
    (hP : productiveB G order = true) :
    a ∈ expectedAt G L start i ↔ LegalNext G L.toLattice start i a :=
  (mem_expectedAt_iff G L hL start i a).trans (expected_iff_legal (productiveB_sound hP))



/-! ### why productivity is needed: `start: "b" x`, `x: "c" x` — after `b` the chart (and lark) expects `c`, yet no sentence exists at all -/

def badG : Grammar := ⟨[⟨0, [Sym.t 1, Sym.nt 1]⟩, ⟨1, [Sym.t 2, Sym.nt 1]⟩]⟩
def badL : Lattice := ⟨fun a i j => a = 1 ∧ i = 0 ∧ j = 1, fun _ _ => False⟩

theorem badG_no_sentence : ∀ {β : List Sym} {w : List Nat}, DerivesSeq badG β w → Sym.nt 1 ∈ β → False := by
  intro β w h
  induction h with
  | nil => intro hm; cases hm
  | term a rest ts _ ih =>
    intro hm
    rcases List.mem_cons.mp hm with h | h
    · cases h
    · exact ih h
  | nonterm r rest ts1 ts2 hr _ _ ih1 ih2 =>
    intro _
    simp only [badG, List.mem_cons, List.mem_nil_iff, or_false] at hr
    rcases hr with rfl | rfl <;> exact ih1 (by simp)

theorem unproductive_counterexample : Expected badG badL 0 1 2 ∧ ¬ LegalNext badG badL 0 1 2 := by
  constructor
  · have h0 : Chart badG badL 0 0 ⟨⟨0, [Sym.t 1, Sym.nt 1]⟩, 0, 0⟩ := Chart.init _ (by simp [badG]) rfl
    have h1 := Chart.scan 0 1 _ 0 0 1 h0 (by simp) (by simp [badL])
    have h2 := Chart.predict 1 _ 1 0 ⟨1, [Sym.t 2, Sym.nt 1]⟩ h1 (by simp) (by simp [badG])
    exact ⟨_, 0, 1, h2, by simp⟩
  · rintro ⟨u, w, _, hd⟩
    obtain ⟨r, hr, _, h1⟩ := hd.single_inv
    simp only [badG, List.mem_cons, List.mem_nil_iff, or_false] at hr
    rcases hr with rfl | rfl <;> exact badG_no_sentence h1 (by simp)

-- non-vacuity: `start: "a" start | "b"` is productive, by the certificate
example : productiveB ⟨[⟨0, [Sym.t 0, Sym.nt 0]⟩, ⟨0, [Sym.t 1]⟩]⟩ [⟨0, [Sym.t 1]⟩] = true := by decide

end EarleyProto
